/-
Lemmas/Numbering: the closed-form class numbering of Spec/Poker.lean (`sclass`, `uclass`) is exactly
the order rank of the rule-book `strength` among the 7462 shapes of five-card hands:
class 1 = strongest … class 7462 = weakest, equal class ⇔ equal strength.

Proof: `Kernel.unrank` lists the 7462 shapes in decreasing strength (a generated table).  The kernel
checks (Kernel/NumA, Kernel/NumB) that
  (A) every valid shape `s` has `1 ≤ cls s ≤ 7462`, `unrank (cls s) = s` and matching categories,
  (B) every `i` in `1..7462` has `unrank i` valid of class `i`, strictly stronger than `unrank (i+1)`.
Everything else follows by induction and trichotomy.
-/
import EspadaVerif.Spec.Poker
import EspadaVerif.Kernel.NumA
import EspadaVerif.Kernel.NumB

namespace EspadaVerif.Lemmas
open Spec Kernel

/-- a sequence that falls at every step from `m` to `n` turns the order of the indices between them around -/
theorem lt_iff_of_step_lt {f : Nat → Nat} {m n : Nat} (step : ∀ i, m ≤ i → i < n → f (i + 1) < f i)
    {i j : Nat} (hi : m ≤ i ∧ i ≤ n) (hj : m ≤ j ∧ j ≤ n) : f j < f i ↔ i < j := by
  have fall : ∀ i j, m ≤ i → i < j → j ≤ n → f j < f i := by
    intro i j hm
    induction j with
    | zero => omega
    | succ j ih =>
      intro hij hj
      have hstep := step j (by omega) (by omega)
      by_cases e : i = j
      · exact e ▸ hstep
      · exact Nat.lt_trans hstep (ih (by omega) (by omega))
  refine ⟨fun h => ?_, fun h => fall i j hi.1 h hj.2⟩
  rcases Nat.lt_trichotomy i j with hlt | rfl | hgt
  · exact hlt
  · omega
  · have := fall j i hj.1 hgt hi.2
    omega

/-- pass A, lifted: what the kernel checked for every valid shape -/
theorem okShape_of_valid (s : Shape) (h : s.valid = true) : okShape s = true := by
  obtain ⟨su, a, b, c, d, e⟩ := s
  simp only [Shape.valid, Bool.and_eq_true, decide_eq_true_eq] at h
  obtain ⟨⟨⟨⟨⟨⟨hab, hbc⟩, hcd⟩, hde⟩, he⟩, _⟩, _⟩ := h
  have hA := all_range' numA_all (i := a * 169 + b * 13 + c) (by omega) (by omega)
  have e1 : (a * 169 + b * 13 + c) / 169 = a := by omega
  have e2 : (a * 169 + b * 13 + c) / 13 % 13 = b := by omega
  have e3 : (a * 169 + b * 13 + c) % 13 = c := by omega
  simp only [leafA, e1, e2, e3, leafP, hab, hbc, decide_true, Bool.and_self, Bool.not_true,
    Bool.false_or] at hA
  have hD := all_range' hA hcd (by omega)
  have hE := all_range' hD hde (by omega)
  simp only [Bool.and_eq_true] at hE
  cases su
  · exact hE.1
  · exact hE.2

theorem valid_facts (s : Shape) (h : s.valid = true) :
    1 ≤ s.cls ∧ s.cls ≤ 7462 ∧ unrank s.cls = s ∧ categoryOfStrength s.str = catOfClass s.cls := by
  simpa only [okShape, h, Bool.not_true, Bool.false_or, Bool.and_eq_true, decide_eq_true_eq, beq_iff_eq,
    and_assoc] using okShape_of_valid s h

/-- pass B, lifted: what the kernel checked for every class index -/
theorem unrank_facts (i : Nat) (h1 : 1 ≤ i) (h2 : i ≤ 7462) :
    (unrank i).valid = true ∧ (unrank i).cls = i ∧ (i < 7462 → (unrank (i + 1)).str < (unrank i).str) := by
  have hB := all_range' numB_all h1 (by omega)
  simp only [leafB, Bool.and_eq_true, Bool.or_eq_true, beq_iff_eq, decide_eq_true_eq] at hB
  obtain ⟨⟨hv, hc⟩, hs⟩ := hB
  exact ⟨hv, hc, fun hlt => hs.resolve_left (by omega)⟩

theorem cls_range (s : Shape) (h : s.valid = true) : 1 ≤ s.cls ∧ s.cls ≤ 7462 :=
  ⟨(valid_facts s h).1, (valid_facts s h).2.1⟩

theorem cls_lt_iff (s t : Shape) (hs : s.valid = true) (ht : t.valid = true) :
    s.cls < t.cls ↔ t.str < s.str := by
  -- both shapes are entries of the table, at their class indices, and the table falls in strength
  obtain ⟨hs1, hs2, hsu, _⟩ := valid_facts s hs
  obtain ⟨ht1, ht2, htu, _⟩ := valid_facts t ht
  have := lt_iff_of_step_lt (f := fun i => (unrank i).str)
    (fun i h1 h2 => (unrank_facts i h1 (by omega)).2.2 h2) ⟨hs1, hs2⟩ ⟨ht1, ht2⟩
  rw [hsu, htu] at this
  exact this.symm

theorem cls_eq_iff (s t : Shape) (hs : s.valid = true) (ht : t.valid = true) :
    s.cls = t.cls ↔ s.str = t.str := by
  have := cls_lt_iff s t hs ht
  have := cls_lt_iff t s ht hs
  omega

theorem cls_onto (i : Nat) (h1 : 1 ≤ i) (h2 : i ≤ 7462) : ∃ s : Shape, s.valid = true ∧ s.cls = i :=
  ⟨unrank i, (unrank_facts i h1 h2).1, (unrank_facts i h1 h2).2.1⟩

/-- the category read off the class index is the rule book's category -/
theorem category_of_cls (s : Shape) (h : s.valid = true) : categoryOfStrength s.str = catOfClass s.cls :=
  (valid_facts s h).2.2.2

end EspadaVerif.Lemmas
