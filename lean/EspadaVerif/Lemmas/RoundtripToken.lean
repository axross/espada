/-
Lemmas/RoundtripToken: the text of a well-formed token (`TokenOk`) followed by a weight suffix parses back to that
token (core of C06, token part); whatever parses as a token contains neither a space (32) nor a comma (44), the two
bytes `HandRange::from_str` strips and splits at.
-/
import EspadaVerif.Lemmas.TokenCascade

namespace EspadaVerif.RoundtripToken
open TextDefs TokenFacts

variable {W : Type}

theorem tokenOk_singleCard_iff (cp : Combo) : TokenOk (.singleCard cp) ↔ ComboOk cp := by
  constructor
  · rintro ⟨l, r, hl, hr, hne, rfl⟩
    exact C14.mkPair_lt l r hl hr hne
  · rintro ⟨v1, v2, hlt⟩
    exact ⟨cp.fst, cp.snd, v1, v2, Card.lt_ne hlt, (C14.mkPair_of_lt hlt).symm⟩

/-- **core of C06 (token)**: the text of a well-formed kind followed by a weight suffix parses to that kind with the
weight of the suffix -/
theorem parse_show_kind (wt : WText W) (kind : TokenKind) (hk : TokenOk kind) (suffix : Bytes)
    (hs : isWeightSuffix suffix = true) :
    parseToken wt (kind.show ++ suffix) = .ok ⟨kind, sufW wt suffix⟩ := by
  match kind, hk with
  | .doubleClosed (.pocket top) bottom, hk => exact parse_doublePocket wt hk.1 hk.2 hs
  | .doubleClosed (.suited h kt) kb, hk =>
    exact soPair_s h kt ▸ parse_doubleSo wt 115 (by decide) hk.1 hk.2.1 hk.2.2 hs
  | .doubleClosed (.ofsuit h kt) kb, hk =>
    exact soPair_o h kt ▸ parse_doubleSo wt 111 (by decide) hk.1 hk.2.1 hk.2.2 hs
  | .bottomClosed (.pocket r), hk => exact parse_bottomPocket wt hk hs
  | .bottomClosed (.suited h k), hk =>
    exact soPair_s h k ▸ parse_bottomSo wt 115 (by decide) hk.1 hk.2 hs
  | .bottomClosed (.ofsuit h k), hk =>
    exact soPair_o h k ▸ parse_bottomSo wt 111 (by decide) hk.1 hk.2 hs
  | .singleRank (.pocket r), hk => exact parse_singlePocket wt hk hs
  | .singleRank (.suited x y), hk =>
    exact soPair_s x y ▸ parse_singleSo wt 115 (by decide) hk.1 hk.2.1 hk.2.2 hs
  | .singleRank (.ofsuit x y), hk =>
    exact soPair_o x y ▸ parse_singleSo wt 111 (by decide) hk.1 hk.2.1 hk.2.2 hs
  | .singleCard cp, hk =>
    -- a canonical combo is `mkPair` of its own two cards
    obtain ⟨v1, v2, hlt⟩ := (tokenOk_singleCard_iff cp).mp hk
    have := parse_cards wt v1 v2 (Card.lt_ne hlt) hs
    rwa [C14.mkPair_of_lt hlt] at this

/-- the weight suffix `Display` writes -/
def showSuffix (wt : WText W) (p : W) : Bytes := if wt.eq p wt.one then [] else 58 :: wt.showW p

theorem show_eq (wt : WText W) (t : Token W) : t.show wt = t.kind.show ++ showSuffix wt t.prob := by
  unfold Token.show showSuffix
  split <;> simp

theorem showSuffix_ok (wt : WText W) (inDom : W → Prop) (hok : WTextOk wt inDom) (p : W) (hp : inDom p) :
    isWeightSuffix (showSuffix wt p) = true ∧ sufW wt (showSuffix wt p) = p := by
  unfold showSuffix
  split
  · next h =>
    have : p = wt.one := (hok.eq_iff p wt.one hp hok.one_dom).mp h
    refine ⟨rfl, ?_⟩
    rw [sufW_nil, hok.parse_empty, this]; rfl
  · next h =>
    have hne : p ≠ wt.one := fun e => h ((hok.eq_iff p wt.one hp hok.one_dom).mpr e)
    refine ⟨hok.show_grammar p hp hne, ?_⟩
    rw [sufW_colon, hok.roundtrip p hp]; rfl

theorem parse_show (wt : WText W) (inDom : W → Prop) (hok : WTextOk wt inDom) (tok : Token W)
    (hk : TokenOk tok.kind) (hw : inDom tok.prob) : parseToken wt (tok.show wt) = .ok tok := by
  obtain ⟨h1, h2⟩ := showSuffix_ok wt inDom hok tok.prob hw
  rw [show_eq, parse_show_kind wt tok.kind hk _ h1, h2]

theorem clean_suffix {suffix : Bytes} (h : isWeightSuffix suffix = true) : ∀ b ∈ suffix, b ≠ 32 ∧ b ≠ 44 :=
  fun b hb => by have := weightSuffix_bytes h b hb; omega

theorem clean_rankChar {r : Nat} (h : r < 13) : rankChar r ≠ 32 ∧ rankChar r ≠ 44 :=
  (by decide : ∀ r, r < 13 → rankChar r ≠ 32 ∧ rankChar r ≠ 44) r h

theorem clean_suitChar {s : Nat} (h : s < 4) : suitChar s ≠ 32 ∧ suitChar s ≠ 44 :=
  (by decide : ∀ s, s < 4 → suitChar s ≠ 32 ∧ suitChar s ≠ 44) s h

theorem clean_soByte {x : Nat} (h : isSoByte x = true) : x ≠ 32 ∧ x ≠ 44 := by
  rcases (isSoByte_iff x).mp h with e | e <;> omega

/-- the pattern that matched determines the class of every byte of the text -/
theorem clean_of_parse (wt : WText W) {s : Bytes} {t : Token W} (h : parseToken wt s = .ok t) :
    ∀ b ∈ s, b ≠ 32 ∧ b ≠ 44 := by
  obtain ⟨i, -, sh, -⟩ := shape_of_parse wt h
  -- byte by byte: the letters of the shape are clean, what is left is the weight suffix
  cases sh with
  | singleCardPair hl hr hs =>
    simp only [showCard, List.cons_append, List.nil_append, List.forall_mem_cons, clean_rankChar, clean_suitChar,
      (Card.valid_iff _).mp hl, (Card.valid_iff _).mp hr, ne_eq, not_false_eq_true, and_self, true_and]
    exact clean_suffix hs
  | _ =>
    simp only [List.forall_mem_cons, clean_rankChar, clean_soByte, ne_eq, Nat.reduceEqDiff, not_false_eq_true,
      and_self, true_and, *]
    exact clean_suffix ‹_›

end EspadaVerif.RoundtripToken
