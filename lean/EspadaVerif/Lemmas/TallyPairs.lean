/-
Lemmas/TallyPairs: sums over the unordered pairs of a list (`pairSum`), their invariance under
permutation for a symmetric summand, and the positions `(t, r)`, `t < r < 49`, of `Spec.allPositions`
as an enumeration of the pairs of a 49-element list.
-/
import EspadaVerif.Lemmas.IterPositions

namespace EspadaVerif.TallyLemmas
open Spec

/-- `Σ F x y` over the pairs `x` before `y` of the list -/
def pairSum (F : Nat → Nat → Nat) : List Nat → Nat
  | [] => 0
  | x :: rest => (rest.map (F x)).sum + pairSum F rest

theorem pairSum_perm (F : Nat → Nat → Nat) (hF : ∀ x y, F x y = F y x) {l l' : List Nat} (h : l.Perm l') :
    pairSum F l = pairSum F l' := by
  induction h with
  | nil => rfl
  | cons x h ih =>
    simp only [pairSum, ih, (h.map (F x)).sum_nat]
  | swap x y l =>
    simp only [pairSum, List.map_cons, List.sum_cons, hF x y]
    omega
  | trans _ _ ih1 ih2 => exact ih1.trans ih2

theorem pairSum_map (F : Nat → Nat → Nat) (f : Nat → Nat) (l : List Nat) :
    pairSum F (l.map f) = pairSum (fun a b => F (f a) (f b)) l := by
  induction l with
  | nil => rfl
  | cons x l ih => simp only [List.map_cons, pairSum, ih, List.map_map, Function.comp_def]

theorem pairSum_eq_index (F : Nat → Nat → Nat) (D : List Nat) :
    pairSum F D = ((List.range D.length).map fun t => ((D.drop (t + 1)).map (F (D.getD t 0))).sum).sum := by
  induction D with
  | nil => rfl
  | cons x D ih =>
    simp only [pairSum, List.length_cons, List.range_succ_eq_map, List.map_cons, List.sum_cons, List.map_map,
      Function.comp_def, Nat.succ_eq_add_one, List.drop_succ_cons, List.drop_zero, List.getD_cons_zero,
      List.getD_cons_succ]
    rw [ih]

/-- the positions of the full scope enumerate the pairs of a 49-card deck -/
theorem sum_allPositions (F : Nat → Nat → Nat) (D : List Nat) (hD : D.length = 49) :
    (allPositions.map fun p => F (D.getD p.1 0) (D.getD p.2 0)).sum = pairSum F D := by
  -- a 49th row, for the turn index 48, would be empty
  have e : allPositions = (List.range 49).flatMap fun t => (List.range' (t + 1) (48 - t)).map fun r => (t, r) := by
    simp [allPositions, List.range_succ (n := 48)]
  rw [pairSum_eq_index, hD, e, Lemmas.sum_flatMap]
  refine congrArg List.sum (List.map_congr_left fun t _ => ?_)
  rw [Lemmas.drop_eq_map_range' D 0, hD]
  simp only [List.map_map, Function.comp_def, Nat.reduceSubDiff]

end EspadaVerif.TallyLemmas
