/-
Lemmas/IterAttempt: one raw position of the iterator.  `pickLoop` reads the chosen entries and its flag
says "turn, river and hole cards pairwise distinct"; `attempt` is the showdown `sdOf` of the specification's
deal when that deal is legal and `None` otherwise (`attempt_out`, `outOf_eq`).
-/
import EspadaVerif.Lemmas.IterDefs
import EspadaVerif.Props.C03
import EspadaVerif.Lemmas.IterDeck
import EspadaVerif.Lemmas.IterOdometer

namespace EspadaVerif.IterLemmas
open Spec EspadaVerif.C02

variable {W : Type}

/-- the hole cards of a choice, player by player: `B ++ holes ch` is the table `C03.tableCards B (ch.map (·.1))` -/
def holes (ch : List (Combo × W)) : List Card := (ch.map (·.1)).flatMap fun p => [p.fst, p.snd]

/-- every chosen entry is a combo of two valid cards in canonical order -/
def ChWf (ch : List (Combo × W)) : Prop :=
  ∀ e ∈ ch, e.1.fst.valid = true ∧ e.1.snd.valid = true ∧ Card.lt e.1.fst e.1.snd = true

/-- every chosen entry is a combo of two valid cards (equal cards and any order allowed: what
`CardPair::new` stores for any two cards) -/
def ChV (ch : List (Combo × W)) : Prop :=
  ∀ e ∈ ch, e.1.fst.valid = true ∧ e.1.snd.valid = true

theorem ChWf.toV {ch : List (Combo × W)} (h : ChWf ch) : ChV ch :=
  fun e he => ⟨(h e he).1, (h e he).2.1⟩

def toSpec (e : Combo × W) : Nat × Nat × W := (e.1.fst.code, e.1.snd.code, e.2)

theorem specEntries_eq (ranges : List (List (Combo × W))) : specEntries ranges = ranges.map (List.map toSpec) := rfl

theorem specEntries_length (ranges : List (List (Combo × W))) : (specEntries ranges).length = ranges.length :=
  List.length_map _

/-- the specification's entries of a table read through `g` -/
theorem specEntries_map {α : Type} (g : α → Combo × W) (T : List (List α)) :
    specEntries (T.map (List.map g)) = T.map (List.map (toSpec ∘ g)) := by
  simp only [specEntries_eq, List.map_map, Function.comp_def]

theorem specEntries_getElem! (ranges : List (List (Combo × W))) (i : Nat) :
    (specEntries ranges)[i]! = (ranges[i]!).map toSpec := by
  rw [specEntries_eq, getElem!_def, getElem!_def, List.getElem?_map]
  cases ranges[i]? <;> rfl

/-- the specification's deal at a position for a choice of entries -/
def dealOf (flop : List Card) (p : Nat × Nat) (ch : List (Combo × W)) : Deal W :=
  { turn := (deck49 (flop.map Card.code)).getD p.1 0, river := (deck49 (flop.map Card.code)).getD p.2 0,
    choice := ch.map toSpec }

/-- the block of `deals` at a position, for the entries of `ranges`: the legal ones among the deals of the choices -/
theorem dealsAt_specEntries (flop : List Card) (ranges : List (List (Combo × W))) (p : Nat × Nat) :
    dealsAt (flop.map Card.code) (specEntries ranges) p
      = ((product ranges).map (dealOf flop p)).filter (Deal.legal (flop.map Card.code)) := by
  unfold dealsAt
  rw [specEntries_eq, product_map, List.map_map]
  rfl

theorem mem_holes (ch : List (Combo × W)) (c : Card) : c ∈ holes ch ↔ ∃ e ∈ ch, c = e.1.fst ∨ c = e.1.snd := by
  simp [holes]

theorem holes_valid (ch : List (Combo × W)) (h : ChV ch) : ∀ c ∈ holes ch, c.valid = true := by
  intro c hc
  obtain ⟨e, he, rfl | rfl⟩ := (mem_holes ch c).mp hc
  · exact (h e he).1
  · exact (h e he).2

theorem holes_nodup_ne (ch : List (Combo × W)) (h : (holes ch).Nodup) : ∀ e ∈ ch, e.1.fst ≠ e.1.snd :=
  fun e he => by simpa using (List.pairwise_flatMap.mp h).1 e.1 (List.mem_map_of_mem he)

theorem usedInsert_mem (u : List Card) (c x : Card) : x ∈ (usedInsert u c).1 ↔ x = c ∨ x ∈ u := by
  unfold usedInsert
  split <;> simp_all

theorem usedInsert_new (u : List Card) (c : Card) : (usedInsert u c).2 = true ↔ c ∉ u := by
  unfold usedInsert
  split <;> simp_all

/-- inserting the cards `H` one after the other into the used set `u` finds each of them new (`fresh_cons`) -/
def Fresh (u H : List Card) : Prop := H.Nodup ∧ ∀ c ∈ H, c ∉ u

theorem fresh_cons (u : List Card) (c : Card) (H : List Card) :
    Fresh u (c :: H) ↔ (usedInsert u c).2 = true ∧ Fresh (usedInsert u c).1 H := by
  simp only [Fresh, List.nodup_cons, List.forall_mem_cons, usedInsert_new, usedInsert_mem, not_or, forall_and,
    List.forall_mem_ne']
  exact ⟨fun ⟨⟨h1, h2⟩, h3, h4⟩ => ⟨h3, h2, h1, h4⟩, fun ⟨h3, h2, h1, h4⟩ => ⟨⟨h1, h2⟩, h3, h4⟩⟩

theorem fresh_nil (H : List Card) : Fresh [] H ↔ H.Nodup := by simp [Fresh]

/-- `pickLoop` on counters in range: no panic, the combos in player order, the weights multiplied left
to right, and the flag says that every insert was new -/
theorem pickLoop_spec (ops : WOps W) (entries : List (List (Combo × W))) (v : List Nat) (used : List Card)
    (ok : Bool) (pairs : List Combo) (prob : W) (ch : List (Combo × W)) (h : pick entries v = some ch) :
    ∃ flag, pickLoop ops entries v used ok pairs prob
        = .ok (flag, pairs.reverse ++ ch.map (·.1), ch.foldl (fun p c => ops.mul p c.2) prob)
      ∧ (flag = true ↔ ok = true ∧ Fresh used (holes ch)) := by
  fun_induction pick entries v generalizing used ok pairs prob ch with
  | case1 => cases h; exact ⟨ok, by simp [pickLoop], by simp [holes, Fresh]⟩
  | case2 => cases h
  | case3 es rest i v x xs hxs hx ih =>
    obtain ⟨cp, w⟩ := x
    cases h
    obtain ⟨flag, hrun, hflag⟩ := ih (usedInsert (usedInsert used cp.fst).1 cp.snd).1
      (ok && (usedInsert used cp.fst).2 && (usedInsert (usedInsert used cp.fst).1 cp.snd).2)
      (cp :: pairs) (ops.mul prob w) xs hxs
    refine ⟨flag, by simp [pickLoop, hx, hrun], ?_⟩
    rw [hflag, show holes ((cp, w) :: xs) = cp.fst :: cp.snd :: holes xs from rfl, fresh_cons, fresh_cons]
    simp only [Bool.and_eq_true, and_assoc]
  | case4 => cases h

/-- the iterator of `mkEvaluator flop ranges a b` at position `p` with counters `v` -/
def st (flop : List Card) (ranges : List (List (Combo × W))) (b p : Nat × Nat) (v : List Nat) : IterState W :=
  { turnTo := b.1, riverTo := b.2, entries := ranges, deck := deckOf flop,
    board := flop.map some ++ [none, none], t := p.1, r := p.2, idx := v }

/-- `attempt` at a raw position, by the flag -/
theorem attempt_eq (ops : WOps W) {flop : List Card} {ranges : List (List (Combo × W))} (b : Nat × Nat)
    {p : Nat × Nat} {v : List Nat} {ch : List (Combo × W)} (hf : WfFlop flop) (hp : p.1 < p.2 ∧ p.2 < 49)
    (hpick : pick ranges v = some ch) :
    attempt ops (st flop ranges b p v) =
      if (cardAt flop p.1 :: cardAt flop p.2 :: holes ch).Nodup then
        showdownNew (ch.map (·.1)) (flop ++ [cardAt flop p.1, cardAt flop p.2])
          (ch.foldl (fun p c => ops.mul p c.2) ops.one)
      else .ok none := by
  obtain ⟨h1, _⟩ := cardAt_spec hf p.1 (by omega)
  obtain ⟨h2, _⟩ := cardAt_spec hf p.2 hp.2
  obtain ⟨flag, hrun, hflag⟩ := pickLoop_spec ops ranges v
    (usedInsert (usedInsert [] (cardAt flop p.1)).1 (cardAt flop p.2)).1 true [] ops.one ch hpick
  have hiff : flag = true ↔ (cardAt flop p.1 :: cardAt flop p.2 :: holes ch).Nodup := by
    rw [hflag, ← fresh_nil, fresh_cons, fresh_cons]
    simp [usedInsert_new, usedInsert_mem, (cardAt_ne hf hp.1 hp.2).symm]
  match flop, hf.len with
  | [f0, f1, f2], _ =>
    simp only [attempt, st, h1, h2, hrun, hiff]
    rfl  -- the three `boardCard`s read the flop back

theorem board_ok {flop : List Card} {p : Nat × Nat} (hf : WfFlop flop) (hp : p.1 < p.2 ∧ p.2 < 49) :
    (flop ++ [cardAt flop p.1, cardAt flop p.2]).Nodup
      ∧ ∀ c ∈ flop ++ [cardAt flop p.1, cardAt flop p.2], c.valid = true := by
  obtain ⟨_, hv1, hn1⟩ := cardAt_spec hf p.1 (by omega)
  obtain ⟨_, hv2, hn2⟩ := cardAt_spec hf p.2 hp.2
  constructor
  · have hd : ∀ a ∈ flop, a ≠ cardAt flop p.1 ∧ a ≠ cardAt flop p.2 :=
      fun a ha => ⟨fun e => hn1 (e ▸ ha), fun e => hn2 (e ▸ ha)⟩
    simpa [List.nodup_append, hf.nodup, cardAt_ne hf hp.1 hp.2] using hd
  · simpa [or_imp, forall_and, hv1, hv2] using hf.valid

/-- legality of the deal at a raw position, read on the model's cards -/
theorem legal_dealOf (flop : List Card) (p : Nat × Nat) (ch : List (Combo × W)) :
    Deal.legal (flop.map Card.code) (dealOf flop p ch) = true
      ↔ ((flop ++ [cardAt flop p.1, cardAt flop p.2] ++ holes ch).map Card.code).Nodup := by
  unfold Deal.legal
  simp only [decide_eq_true_eq, dealOf, cardAt, holes, List.map_append, List.map_cons, List.map_nil,
    Card.code_ofCode, List.flatMap_map, List.map_flatMap, toSpec]

theorem legal_iff_nodup {flop : List Card} {p : Nat × Nat} {ch : List (Combo × W)} (hf : WfFlop flop)
    (hp : p.1 < p.2 ∧ p.2 < 49) (hch : ChV ch) :
    Deal.legal (flop.map Card.code) (dealOf flop p ch) = true
      ↔ (flop ++ [cardAt flop p.1, cardAt flop p.2] ++ holes ch).Nodup := by
  rw [legal_dealOf, Card.nodup_map_code]
  intro c hc
  rcases List.mem_append.mp hc with hc | hc
  · exact (board_ok hf hp).2 c hc
  · exact holes_valid ch hch c hc

/-- `fst ≠ snd` for each player comes from the distinctness of the hole cards (the flag of `pickLoop`), not
from an order on the two cards of a combo -/
theorem wfTable {flop : List Card} {p : Nat × Nat} {ch : List (Combo × W)} (hf : WfFlop flop)
    (hp : p.1 < p.2 ∧ p.2 < 49) (hch : ChV ch) (hh : (holes ch).Nodup) :
    C03.WfTable (flop ++ [cardAt flop p.1, cardAt flop p.2]) (ch.map (·.1)) := by
  refine ⟨by simp [hf.len], (board_ok hf hp).1, (board_ok hf hp).2, fun pc hpc => ?_⟩
  obtain ⟨e, he, rfl⟩ := List.mem_map.mp hpc
  exact ⟨(hch e he).1, (hch e he).2, holes_nodup_ne ch hh e he⟩

theorem dealOf_combos (flop : List Card) (p : Nat × Nat) {ch : List (Combo × W)} (hch : ChV ch) :
    ((dealOf flop p ch).choice.map fun c => (⟨Card.ofCode c.1, Card.ofCode c.2.1⟩ : Combo)) = ch.map (·.1) := by
  simp only [dealOf, List.map_map]
  exact List.map_congr_left fun e he => by
    simp only [Function.comp, toSpec, Card.ofCode_code _ (hch e he).1, Card.ofCode_code _ (hch e he).2]

theorem dealOf_prob (ops : WOps W) (flop : List Card) (p : Nat × Nat) (ch : List (Combo × W)) :
    (dealOf flop p ch).choice.foldl (fun p c => ops.mul p c.2.2) ops.one
      = ch.foldl (fun p c => ops.mul p c.2) ops.one := by
  simp only [dealOf, List.foldl_map, toSpec]

theorem showdownOfDeal_eq (ops : WOps W) (flop : List Card) (p : Nat × Nat) {ch : List (Combo × W)}
    (hch : ChV ch) :
    showdownOfDeal ops flop (dealOf flop p ch)
      = showdownNew (ch.map (·.1)) (flop ++ [cardAt flop p.1, cardAt flop p.2])
          (ch.foldl (fun p c => ops.mul p c.2) ops.one) := by
  unfold showdownOfDeal
  rw [dealOf_combos flop p hch, dealOf_prob]
  rfl

/-- the showdown a deal stands for when it is legal (`showdownOfDeal_legal`): the board is the flop followed by
turn and river, each player is ruled by the class of the best hand of their seven cards (`C03.showdownNew_some`),
the probability is the product of the chosen weights -/
def sdOf (ops : WOps W) (flop : List Card) (d : Deal W) : Showdown W :=
  ⟨flop ++ [Card.ofCode d.turn, Card.ofCode d.river],
    C03.ruled (fun q => best ((sevenCards q (flop ++ [Card.ofCode d.turn, Card.ofCode d.river])).map C01.toSpec))
      (d.choice.map fun c => ⟨Card.ofCode c.1, Card.ofCode c.2.1⟩),
    d.choice.foldl (fun p c => ops.mul p c.2.2) ops.one⟩

theorem sdOf_hole (ops : WOps W) (flop : List Card) (d : Deal W) :
    (sdOf ops flop d).players.map (·.hole) = d.choice.map fun c => (⟨Card.ofCode c.1, Card.ofCode c.2.1⟩ : Combo) :=
  C03.ruled_hole _ _

/-- the showdown of a legal deal holds `5 + 2n` different cards: they have the codes of the deal (nothing is
asked of the flop or the entries) -/
theorem sdOf_nodup (ops : WOps W) {flop : List Card} {d : Deal W} (hleg : Deal.legal (flop.map Card.code) d = true) :
    ((sdOf ops flop d).board ++ (sdOf ops flop d).players.flatMap (fun p => [p.hole.fst, p.hole.snd])).Nodup := by
  rw [← List.flatMap_map (f := ShowdownPlayer.hole) (g := fun c => [c.fst, c.snd]), sdOf_hole]
  refine Lemmas.nodup_of_map Card.code ?_
  simpa only [sdOf, Deal.legal, decide_eq_true_eq, List.map_append, List.map_cons, List.map_nil, Card.code_ofCode,
    List.flatMap_map, List.map_flatMap] using hleg

theorem showdownOfDeal_legal (ops : WOps W) {flop : List Card} {p : Nat × Nat} {ch : List (Combo × W)}
    (hf : WfFlop flop) (hp : p.1 < p.2 ∧ p.2 < 49) (hch : ChV ch)
    (hleg : Deal.legal (flop.map Card.code) (dealOf flop p ch) = true) :
    showdownOfDeal ops flop (dealOf flop p ch) = .ok (some (sdOf ops flop (dealOf flop p ch))) := by
  obtain ⟨_, hh, hno⟩ := (C03.nodup_tableCards _ _).mp ((legal_iff_nodup hf hp hch).mp hleg)
  rw [showdownOfDeal_eq ops flop p hch, C03.showdownNew_some _ _ _ (wfTable hf hp hch hh) hno, sdOf,
    dealOf_combos flop p hch, dealOf_prob]
  rfl

/-- the output of the raw position `(p, ch)`: the showdown of its deal when legal -/
def outOf (ops : WOps W) (flop : List Card) (p : Nat × Nat) (ch : List (Combo × W)) : Option (Showdown W) :=
  if Deal.legal (flop.map Card.code) (dealOf flop p ch) = true then
    match showdownOfDeal ops flop (dealOf flop p ch) with
    | .ok (some sd) => some sd
    | _ => none
  else none

/-- the catch-all arm of `outOf` never fires on a position of the deck and a choice of valid cards -/
theorem outOf_eq (ops : WOps W) {flop : List Card} {p : Nat × Nat} {ch : List (Combo × W)}
    (hf : WfFlop flop) (hp : p.1 < p.2 ∧ p.2 < 49) (hch : ChV ch) :
    outOf ops flop p ch = if Deal.legal (flop.map Card.code) (dealOf flop p ch) = true then
      some (sdOf ops flop (dealOf flop p ch)) else none := by
  unfold outOf
  split
  · next hleg => rw [showdownOfDeal_legal ops hf hp hch hleg]
  · rfl

/-- the iterator at a raw position: the showdown of the deal when it is legal, a skip otherwise.  When the
flag of `pickLoop` is false nothing is materialised; when it is true the hole cards are pairwise distinct, so
`C03` applies to the table and `showdownNew` answers `None` exactly when a player collides with the board. -/
theorem attempt_out (ops : WOps W) {flop : List Card} {ranges : List (List (Combo × W))} (b : Nat × Nat)
    {p : Nat × Nat} {v : List Nat} {ch : List (Combo × W)} (hf : WfFlop flop) (hp : p.1 < p.2 ∧ p.2 < 49)
    (hpick : pick ranges v = some ch) (hch : ChV ch) :
    attempt ops (st flop ranges b p v) = .ok (outOf ops flop p ch) := by
  have hl := legal_iff_nodup hf hp hch
  rw [attempt_eq ops b hf hp hpick, outOf_eq ops hf hp hch]
  cases hleg : Deal.legal (flop.map Card.code) (dealOf flop p ch) with
  | true =>
    -- the flag speaks of some of the cards of the legal deal
    have hfl : (cardAt flop p.1 :: cardAt flop p.2 :: holes ch).Nodup :=
      (hl.mp hleg).sublist ((List.sublist_append_right flop [_, _]).append_right _)
    rw [if_pos hfl, if_pos rfl, ← showdownOfDeal_eq ops flop p hch, showdownOfDeal_legal ops hf hp hch hleg]
  | false =>
    rw [if_neg Bool.false_ne_true]
    split
    · next hfl =>
      -- the flag holds but the deal is not legal: somebody collides with the board
      rw [C03.showdownNew_eq _ _ _ (wfTable hf hp hch hfl.of_cons.of_cons), if_pos]
      apply Decidable.byContradiction
      intro hno
      simp only [List.any_eq_true, not_exists, not_and, Bool.not_eq_true] at hno
      exact Bool.false_ne_true (hleg ▸ hl.mpr
        ((C03.nodup_tableCards _ _).mpr ⟨(board_ok hf hp).1, hfl.of_cons.of_cons, hno⟩))
    · rfl

/-- a raw position whose choice holds a combo of two equal cards is skipped (whatever the other
players hold) -/
theorem attempt_degenerate (ops : WOps W) (flop : List Card) (ranges : List (List (Combo × W))) (b p : Nat × Nat)
    (v : List Nat) (ch : List (Combo × W)) (hf : WfFlop flop) (hp : p.1 < p.2 ∧ p.2 < 49)
    (hpick : pick ranges v = some ch) (e : Combo × W) (he : e ∈ ch) (hd : e.1.fst = e.1.snd) :
    attempt ops (st flop ranges b p v) = .ok none := by
  rw [attempt_eq ops b hf hp hpick, if_neg]
  intro h
  exact holes_nodup_ne ch h.of_cons.of_cons e he hd

end EspadaVerif.IterLemmas
