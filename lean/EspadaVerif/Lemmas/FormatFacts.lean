/-
Lemmas/FormatFacts: `Display for HandRange` in closed form, in the vocabulary of C17: the tokens are `rankPairText` of
the table `rank_pairs()` returns (the run tokens of its 25 rows) followed by `leftoverText` of the leftovers.  Where `==`
is equality on the weights, that table is the one `TrueTable` describes by the contents of the range.
-/
import EspadaVerif.Lemmas.RowRuns
import EspadaVerif.Lemmas.RankPairFacts

namespace EspadaVerif.C17
variable {W : Type}

/-- the rank-pair part: the pocket row, then for each high card from ace to trey its suited row and its offsuit row -/
def rankPairText (wt : WText W) (tbl : RankPair → Option W) : List (Token W) :=
  rowText wt tbl 0 .pocket
    ++ (List.range 12).flatMap fun high => rowText wt tbl (high + 1) (.suited high) ++ rowText wt tbl (high + 1) (.ofsuit high)

/-- the leftover part: for every high rank, kicker rank from it down, high suit, kicker suit — the combo, if it is a
leftover, as a single-combo token with its weight.  As in the source, a leftover pocket combo is met twice (`kicker = high`,
its two suits in either order) and so written twice. -/
def leftoverText (o : HandRange W) : List (Token W) :=
  (List.range 13).flatMap fun high => (List.range' high (13 - high)).flatMap fun kicker =>
    (List.range 4).flatMap fun hs => (List.range 4).flatMap fun ks =>
      match o.lookup (mkPair ⟨high, hs⟩ ⟨kicker, ks⟩) with
      | some p => [(⟨.singleCard (mkPair ⟨high, hs⟩ ⟨kicker, ks⟩), p⟩ : Token W)]
      | none => []

open TextDefs

/-- `tbl` is the true rank-pair table of `r`: a rank pair is listed with `w` iff it is canonical and all of its combos
are present with weight `w` -/
def TrueTable (r : HandRange W) (tbl : RankPair → Option W) : Prop :=
  ∀ rp w, tbl rp = some w ↔ (RankPair.canonical rp ∧ ∀ c ∈ rp.combos, r.lookup c = some w)

/-- `rank_pairs()` returns the true table, where `==` is equality on the weights looked up -/
theorem trueTable_rpList (wt : WText W) (inDom : W → Prop)
    (heq : ∀ a b, inDom a → inDom b → (wt.eq a b = true ↔ a = b)) (r : HandRange W)
    (hr : ∀ c w, r.lookup c = some w → inDom w) : TrueTable r (rpLookup (RankPairFacts.rpList wt r)) :=
  RankPairFacts.report_rpList wt inDom heq r hr

section
variable {r : HandRange W} {tbl : RankPair → Option W} (htbl : TrueTable r tbl) {inDom : W → Prop}
  (hr : ∀ c w, r.lookup c = some w → inDom w)

include htbl hr

/-- a listed weight is the weight of a combo of the range (the probed one, say) -/
theorem TrueTable.dom (rp : RankPair) (w : W) (h : tbl rp = some w) : inDom w :=
  hr _ w (((htbl rp w).mp h).2 _ (RankPairFacts.probeOf_mem rp))

theorem TrueTable.runsFinal {wt : WText W} (heq : ∀ a b, inDom a → inDom b → (wt.eq a b = true ↔ a = b))
    (first : Nat) (mk : Nat → RankPair) :
    FormatFacts.RunsFinal wt.eq (rowOf tbl first mk) (rowRunsOf wt tbl first mk) :=
  FormatFacts.rowRunsOf_final wt tbl first mk fun rp w h => (heq w w (htbl.dom hr rp w h) (htbl.dom hr rp w h)).mpr rfl

end

end EspadaVerif.C17

namespace EspadaVerif.FormatFacts
open C17 RankPairFacts

variable {W : Type}

theorem orphanTokens_eq (orph : HandRange W) : orphanTokens orph = .ok (leftoverText orph) := by
  simp only [orphanTokens, C13.rank_range_all, C13.suit_range_all, leftoverText]
  suffices h : ∀ l : List Nat, (∀ h ∈ l, h < 13) → orphanTokens.outer orph (List.range 4) l = .ok (l.flatMap _) from
    h _ fun h hh => List.mem_range.mp hh
  intro l hl
  induction l with
  | nil => rfl
  | cons h tl ih =>
    simp only [orphanTokens.outer, rankDeuce, kickers_from h (hl h List.mem_cons_self),
      ih fun x hx => hl x (List.mem_cons_of_mem _ hx), List.flatMap_cons]
    rfl

theorem showRangeTokens_rows_eq (wt : WText W) (rps : List (RankPair × W)) (l : List Nat) (hl : ∀ h ∈ l, h < 12) :
    showRangeTokens.rows wt rps l = .ok (l.flatMap fun high =>
      rowText wt (rpLookup rps) (high + 1) (.suited high) ++ rowText wt (rpLookup rps) (high + 1) (.ofsuit high)) := by
  induction l with
  | nil => rfl
  | cons h tl ih =>
    have hh : h < 12 := hl h List.mem_cons_self
    simp only [showRangeTokens.rows, TokenFacts.rankNext_succ h (by omega), rankDeuce, kickers_from (h + 1) (by omega),
      rowTokens_runs wt rps (h + 1) (by omega), ih fun x hx => hl x (List.mem_cons_of_mem _ hx), List.flatMap_cons]

theorem showRangeTokens_eq (wt : WText W) (r : HandRange W) :
    showRangeTokens wt r = .ok (rankPairText wt (rpLookup (RankPairFacts.rpList wt r)) ++ leftoverText (orphList wt r)) := by
  have hrows := showRangeTokens_rows_eq wt (RankPairFacts.rpList wt r) (List.range 12) fun h hh => List.mem_range.mp hh
  have hp := rowTokens_runs wt (RankPairFacts.rpList wt r) 0 (by omega) .pocket
  simp only [Nat.sub_zero, ← List.range_eq_range'] at hp
  simp only [showRangeTokens, rankPairs_eq, orphans_eq, C13.rank_range_all, rankAce, rankTrey, rankDeuce, highs_eq,
    hp, hrows, orphanTokens_eq, rankPairText]

/-- Stated for a variable range: on a closed one the kernel, comparing `showRange wt r` with its unfolding, reduces the
`match` first and so runs the whole formatter. -/
theorem showRange_of_tokens {wt : WText W} {r : HandRange W} {toks : List (Token W)}
    (h : showRangeTokens wt r = .ok toks) : showRange wt r = .ok (joinCommas (toks.map (Token.show wt))) := by
  simp only [showRange, h]

theorem showRange_eq (wt : WText W) (r : HandRange W) :
    showRange wt r = .ok (joinCommas
      ((rankPairText wt (rpLookup (RankPairFacts.rpList wt r)) ++ leftoverText (orphList wt r)).map (Token.show wt))) :=
  showRange_of_tokens (showRangeTokens_eq wt r)

theorem leftoverText_congr (o₁ o₂ : HandRange W) (h : ∀ c, o₁.lookup c = o₂.lookup c) :
    leftoverText o₁ = leftoverText o₂ := by
  simp only [leftoverText, (funext h : HandRange.lookup o₁ = HandRange.lookup o₂)]

theorem leftoverText_kind (o : HandRange W) (t : Token W) (ht : t ∈ leftoverText o) :
    ∃ c p, t = ⟨.singleCard c, p⟩ ∧ o.lookup c = some p := by
  simp only [leftoverText, List.mem_flatMap] at ht
  obtain ⟨h, _, k, _, hs, _, ks, _, ht⟩ := ht
  split at ht
  · next p hp => exact ⟨_, p, List.mem_singleton.mp ht, hp⟩
  · cases ht

/-! `rpRow` and `rpList` spell `RankPairFacts.rpList` a second time; besides the three lemmas below only the statement of
`RoundtripRange.report` mentions them. -/

/-- the suited and offsuit rank pairs reported under the high card `high`, kicker by kicker -/
def rpRow (wt : WText W) (r : HandRange W) (high : Nat) : List (RankPair × W) :=
  (List.range' (high + 1) (12 - high)).flatMap fun kicker =>
    ((rankPairWeight wt r (.suited high kicker) (mkPair ⟨high, 0⟩ ⟨kicker, 0⟩)).map fun p => (RankPair.suited high kicker, p)).toList
    ++ ((rankPairWeight wt r (.ofsuit high kicker) (mkPair ⟨high, 0⟩ ⟨kicker, 1⟩)).map fun p => (RankPair.ofsuit high kicker, p)).toList

/-- the table `rank_pairs()` returns, in the order the loops visit the rank pairs: `RankPairFacts.rpList` with `entryOf`
and `probeOf` unfolded (the two are definitionally equal) -/
def rpList (wt : WText W) (r : HandRange W) : List (RankPair × W) :=
  ((List.range 13).filterMap fun rank =>
    (rankPairWeight wt r (.pocket rank) (mkPair ⟨rank, 0⟩ ⟨rank, 1⟩)).map fun p => (RankPair.pocket rank, p))
  ++ (List.range' 0 12).flatMap (rpRow wt r)

/-! `RankPairFacts.rpLookup_rpList` spelt out kind by kind -/

theorem rpLookup_rpList_pocket (wt : WText W) (r : HandRange W) (k : Nat) :
    rpLookup (rpList wt r) (.pocket k)
      = if k < 13 then rankPairWeight wt r (.pocket k) (mkPair ⟨k, 0⟩ ⟨k, 1⟩) else none :=
  rpLookup_rpList wt r (.pocket k)

theorem rpLookup_rpList_suited (wt : WText W) (r : HandRange W) (h k : Nat) :
    rpLookup (rpList wt r) (.suited h k)
      = if h < k ∧ k < 13 then rankPairWeight wt r (.suited h k) (mkPair ⟨h, 0⟩ ⟨k, 0⟩) else none :=
  rpLookup_rpList wt r (.suited h k)

theorem rpLookup_rpList_ofsuit (wt : WText W) (r : HandRange W) (h k : Nat) :
    rpLookup (rpList wt r) (.ofsuit h k)
      = if h < k ∧ k < 13 then rankPairWeight wt r (.ofsuit h k) (mkPair ⟨h, 0⟩ ⟨k, 1⟩) else none :=
  rpLookup_rpList wt r (.ofsuit h k)

end EspadaVerif.FormatFacts
