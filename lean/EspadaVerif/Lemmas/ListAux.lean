/-
Lemmas/ListAux: lists, for C01 — the sub-hands `Spec.choose`, `Spec.minList`, `Spec.sortRanks`, `Spec.class5`
and `Spec.best` under reordering, `Kernel.ascents`.

At the end, in namespace `Witness`: `Spec.best` / `Spec.bestStrength` go through `List.mergeSort`, which the
kernel cannot unfold; on rank-sorted cards they equal the sort-free `bestS` / `bestStrengthS`, which
`decide +kernel` evaluates (used by the closed instances in `Props/Witness`).
-/
import EspadaVerif.Kernel.Checkers
import EspadaVerif.Lemmas.ListBasics

namespace EspadaVerif.Lemmas
open Spec Kernel

theorem choose_map {α β : Type} (f : α → β) (k : Nat) (l : List α) :
    choose k (l.map f) = (choose k l).map (List.map f) := by
  fun_induction choose k l with
  | case1 | case2 => simp [choose]
  | case3 k x xs ih1 ih2 => simp [choose, ih1, ih2, Function.comp_def]

/-- a function of the sub-lists of an image, read on the sub-lists themselves: the form in which `best`, `nf7`,
`fl7` and `bestStrength` of cards are handled -/
theorem map_choose_map {α β γ : Type} (f : α → β) (g : List β → γ) (k : Nat) (l : List α) :
    (choose k (l.map f)).map g = (choose k l).map fun S => g (S.map f) := by
  rw [choose_map, List.map_map]
  rfl

theorem choose_filter {α : Type} (p : α → Bool) (k : Nat) (l : List α) :
    (choose k l).filter (fun s => s.all p) = choose k (l.filter p) := by
  fun_induction choose k l with
  | case1 | case2 => simp [choose]
  | case3 k x xs ih1 ih2 =>
    by_cases hx : p x = true <;> simp [choose, List.filter_map, Function.comp_def, hx, ih1, ih2]

theorem mem_choose_iff {α : Type} {k : Nat} {l s : List α} :
    s ∈ choose k l ↔ s.Sublist l ∧ s.length = k := by
  fun_induction choose k l generalizing s with
  | case1 | case2 => simp +contextual
  | case3 k x xs ih1 ih2 =>
    simp only [List.mem_append, List.mem_map, ih1, ih2, List.sublist_cons_iff, or_and_right]
    -- without `x` both sides read the same; with `x`, `s = x :: t`
    refine or_congr Iff.rfl ⟨?_, ?_⟩
    · rintro ⟨t, ht, rfl⟩
      exact ⟨⟨t, rfl, ht.1⟩, by simp [ht.2]⟩
    · rintro ⟨⟨t, rfl, ht⟩, hl⟩
      exact ⟨t, ⟨ht, by simpa using hl⟩, rfl⟩

/-- what a function of unordered lists takes on the `k`-element sub-lists does not depend on the order of the list -/
theorem map_choose_subset_of_perm {α β : Type} {g : List α → β} (hg : ∀ {S S'}, S.Perm S' → g S = g S') {k : Nat}
    {X Y : List α} (h : X.Perm Y) : (choose k X).map g ⊆ (choose k Y).map g := by
  intro v hv
  obtain ⟨S, hS, rfl⟩ := List.mem_map.mp hv
  obtain ⟨hsub, hlen⟩ := mem_choose_iff.mp hS
  obtain ⟨S', hp, hsub'⟩ := List.exists_perm_sublist hsub h
  exact List.mem_map.mpr ⟨S', mem_choose_iff.mpr ⟨hsub', hp.length_eq ▸ hlen⟩, hg hp⟩

theorem minList_le_of_mem {l : List Nat} {x : Nat} (h : x ∈ l) : minList l ≤ x :=
  (foldl_min_le l _).2 x h

theorem minList_le (l : List Nat) : minList l ≤ 7463 := (foldl_min_le l _).1

theorem minList_mem_or (l : List Nat) : minList l = 7463 ∨ minList l ∈ l :=
  foldl_min_mem l 7463

theorem minList_eq_of_forall {l : List Nat} {v : Nat} (hm : v ∈ l) (hle : ∀ x ∈ l, v ≤ x) (hv : v ≤ 7463) :
    minList l = v := by
  apply Nat.le_antisymm (minList_le_of_mem hm)
  rcases minList_mem_or l with h | h
  · rw [h]; exact hv
  · exact hle _ h

theorem minList_anti {l l' : List Nat} (h : l ⊆ l') : minList l' ≤ minList l := by
  rcases minList_mem_or l with h1 | h1
  · rw [h1]; exact minList_le l'
  · exact minList_le_of_mem (h h1)

theorem sortRanks_perm_self (l : List Nat) : (sortRanks l).Perm l := List.mergeSort_perm _ _

theorem sortRanks_pairwise (l : List Nat) : (sortRanks l).Pairwise (· ≤ ·) := pairwise_mergeSort_key id l

theorem sortRanks_of_sorted {l : List Nat} (h : l.Pairwise (· ≤ ·)) : sortRanks l = l := by
  unfold sortRanks
  apply List.mergeSort_of_pairwise
  simpa using h

theorem sortRanks_perm {l l' : List Nat} (h : l.Perm l') : sortRanks l = sortRanks l' :=
  List.Perm.eq_of_pairwise (fun _ _ _ _ => Nat.le_antisymm) (sortRanks_pairwise l) (sortRanks_pairwise l')
    ((sortRanks_perm_self l).trans (h.trans (sortRanks_perm_self l').symm))

theorem allSameSuit_iff (S : List (Nat × Nat)) :
    allSameSuit S = true ↔ ∀ x ∈ S, ∀ y ∈ S, x.2 = y.2 := by
  cases S with
  | nil => simp [allSameSuit]
  | cons c rest =>
    obtain ⟨r, s⟩ := c
    simp only [allSameSuit, List.all_eq_true, beq_iff_eq]
    constructor
    · intro h x hx y hy
      -- every card carries the suit of the first
      have key : ∀ z ∈ (r, s) :: rest, z.2 = s := fun z hz =>
        (List.mem_cons.mp hz).elim (fun e => e ▸ rfl) (h z)
      rw [key x hx, key y hy]
    · exact fun h x hx => h x (List.mem_cons_of_mem _ hx) (r, s) List.mem_cons_self

theorem allSameSuit_perm {S S' : List (Nat × Nat)} (h : S.Perm S') : allSameSuit S = allSameSuit S' := by
  rw [Bool.eq_iff_iff, allSameSuit_iff, allSameSuit_iff]
  simp only [h.mem_iff]

theorem class5_of_sorted (S : List (Nat × Nat)) (hs : (S.map (·.1)).Pairwise (· ≤ ·)) :
    class5 S = if allSameSuit S then sclassL (S.map (·.1)) else uclassL (S.map (·.1)) := by
  unfold class5
  rw [sortRanks_of_sorted hs]
  generalize S.map (·.1) = R
  rcases R with _ | ⟨a, _ | ⟨b, _ | ⟨c, _ | ⟨d, _ | ⟨e, _ | ⟨f, t⟩⟩⟩⟩⟩⟩ <;> simp [sclassL, uclassL]

theorem class5_perm {S S' : List (Nat × Nat)} (h : S.Perm S') : class5 S = class5 S' := by
  unfold class5
  rw [sortRanks_perm (h.map (·.1)), allSameSuit_perm h]

theorem best_le (cards : List (Nat × Nat)) : best cards ≤ 7463 := minList_le _

theorem best_perm {X Y : List (Nat × Nat)} (h : X.Perm Y) : best X = best Y :=
  Nat.le_antisymm (minList_anti (map_choose_subset_of_perm class5_perm h.symm))
    (minList_anti (map_choose_subset_of_perm class5_perm h))

theorem best_map {α : Type} (f : α → Nat × Nat) (l : List α) :
    best (l.map f) = minList ((choose 5 l).map fun S => class5 (S.map f)) :=
  congrArg minList (map_choose_map f class5 5 l)

/-- a strictly increasing sub-list of a sorted list takes at most one entry from each block of equal ones -/
theorem ascents_bound : ∀ {R T : List Nat}, R.Pairwise (· ≤ ·) → T.Sublist R → T.Pairwise (· < ·) →
    T.length ≤ ascents R + 1
  | [], _, _, hsub, _ => by simp [List.sublist_nil.mp hsub]
  | [_], _, _, hsub, _ => hsub.length_le
  | a :: b :: t, T, hR, hsub, hT => by
    have hab : a ≤ b := (List.pairwise_cons.mp hR).1 b List.mem_cons_self
    have ih := fun T => ascents_bound (R := b :: t) (T := T) (List.pairwise_cons.mp hR).2
    simp only [ascents]
    rcases List.sublist_cons_iff.mp hsub with h | ⟨T', rfl, h⟩
    · have := ih T h hT
      omega
    · obtain ⟨ha, hT'⟩ := List.pairwise_cons.mp hT
      split
      · have := ih T' h hT'
        simp only [List.length_cons]
        omega
      · -- `a = b`, and `T'` lies above `a`: it is within `t`, so `a :: T'` is within `b :: t`
        obtain rfl : a = b := by omega
        rcases List.sublist_cons_iff.mp h with h' | ⟨_, rfl, _⟩
        · have := ih (a :: T') (h'.cons_cons a) hT
          omega
        · exact absurd (ha a List.mem_cons_self) (Nat.lt_irrefl a)

end EspadaVerif.Lemmas

namespace EspadaVerif.Witness
open Spec Kernel Lemmas

/-- class of five cards whose ranks are already sorted (no sorting step) -/
def class5s (S : List (Nat × Nat)) : Nat :=
  if allSameSuit S then sclassL (S.map (·.1)) else uclassL (S.map (·.1))

/-- rule-book strength of five cards whose ranks are already sorted -/
def strength5s (S : List (Nat × Nat)) : Nat :=
  match S.map (·.1) with
  | [a, b, c, d, e] => strength (allSameSuit S) a b c d e
  | _ => 0

def bestS (X : List (Nat × Nat)) : Nat := minList ((choose 5 X).map class5s)
def bestStrengthS (X : List (Nat × Nat)) : Nat := ((choose 5 X).map strength5s).foldl max 0

theorem strength5_of_sorted (S : List (Nat × Nat)) (hs : (S.map (·.1)).Pairwise (· ≤ ·)) :
    strength5 S = strength5s S := by
  unfold strength5 strength5s
  rw [sortRanks_of_sorted hs]
  generalize S.map (·.1) = R
  rcases R with _ | ⟨a, _ | ⟨b, _ | ⟨c, _ | ⟨d, _ | ⟨e, _ | ⟨f, t⟩⟩⟩⟩⟩⟩ <;> rfl

/-- the sub-hands of cards in rank order are in rank order: on them a function may be exchanged for one that agrees
with it on such hands -/
theorem map_choose_sorted {f g : List (Nat × Nat) → Nat} {k : Nat} {X : List (Nat × Nat)}
    (hs : (X.map (·.1)).Pairwise (· ≤ ·)) (h : ∀ S, (S.map (·.1)).Pairwise (· ≤ ·) → f S = g S) :
    (choose k X).map f = (choose k X).map g :=
  List.map_congr_left fun S hS => h S (hs.sublist ((mem_choose_iff.mp hS).1.map _))

theorem best_sorted (X : List (Nat × Nat)) (hs : (X.map (·.1)).Pairwise (· ≤ ·)) : best X = bestS X :=
  congrArg minList (map_choose_sorted hs class5_of_sorted)

theorem bestStrength_sorted (X : List (Nat × Nat)) (hs : (X.map (·.1)).Pairwise (· ≤ ·)) :
    bestStrength X = bestStrengthS X :=
  congrArg (List.foldl max 0) (map_choose_sorted hs strength5_of_sorted)

end EspadaVerif.Witness
