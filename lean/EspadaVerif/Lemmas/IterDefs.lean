/-
Lemmas/IterDefs: the vocabulary of C02 (well-formed input, scopes, the evaluator under test, the
showdown a spec deal stands for).  Stated here so that the helper lemmas and `Props/C02.lean` share it.
-/
import EspadaVerif.Model.Iter
import EspadaVerif.Spec.Deals
import EspadaVerif.Lemmas.IterPositions

namespace EspadaVerif.C02
open EspadaVerif Spec

variable {W : Type}

/-- proper input: a flop of three distinct valid cards; every entry is a combo of two valid cards stored
in canonical order (first card orders first, so they differ); a player's list (the iteration of a
hash map keyed by combos) has no duplicate combo.  Lists may be empty and of any length. -/
structure WfInput (flop : List Card) (ranges : List (List (Combo × W))) : Prop where
  flop_len : flop.length = 3
  flop_nodup : flop.Nodup
  flop_valid : ∀ c ∈ flop, c.valid = true
  combos : ∀ es ∈ ranges, ∀ e ∈ es, e.1.fst.valid = true ∧ e.1.snd.valid = true ∧ Card.lt e.1.fst e.1.snd = true
  nodup : ∀ es ∈ ranges, (es.map (·.1)).Nodup

structure ValidScope (a b : Nat × Nat) : Prop where
  from_valid : validPos a = true
  to_valid : validPos b = true
  ordered : posLe a b = true

/-- the evaluator for a three-card flop, scoped to `[a, b)` -/
def mkEvaluator (flop : List Card) (ranges : List (List (Combo × W))) (a b : Nat × Nat) : Evaluator W :=
  { board := flop.map some ++ [none, none], ranges := ranges,
    turnFrom := a.1, riverFrom := a.2, turnTo := b.1, riverTo := b.2 }

/-- the specification sees cards as codes -/
def specEntries (ranges : List (List (Combo × W))) : List (List (Nat × Nat × W)) :=
  ranges.map fun es => es.map fun e => (e.1.fst.code, e.1.snd.code, e.2)

/-- the showdown a deal stands for: the flop in the given order, then turn and river; the chosen combos in
player order; the product of their weights taken left to right from `one` -/
def showdownOfDeal (ops : WOps W) (flop : List Card) (d : Deal W) : Res (Option (Showdown W)) :=
  showdownNew (d.choice.map fun c => (⟨Card.ofCode c.1, Card.ofCode c.2.1⟩ : Combo))
    (flop ++ [Card.ofCode d.turn, Card.ofCode d.river])
    (d.choice.foldl (fun p c => ops.mul p c.2.2) ops.one)

end EspadaVerif.C02
