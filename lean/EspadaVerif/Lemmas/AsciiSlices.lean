/-
Lemmas/AsciiSlices: `&s[a..b]` (`slice`, `Model/Basic.lean`) on ASCII texts, where every position is a char boundary:
the slice is the bytes it names.  Used for the fixed-length texts of `Card::from_str` and `CardPair::from_str` (C13, C14)
and for the branches of `HandRangeToken::from_str` (`Lemmas/TokenFacts`).
-/
import EspadaVerif.Model.Basic
import EspadaVerif.Lemmas.TokenSimp

namespace EspadaVerif

/-- in an ASCII text no byte is a continuation byte, so every position is a char boundary -/
theorem isBoundary_ascii {s : Bytes} (h : ∀ y ∈ s, y < 128) {i : Nat} (hi : i ≤ s.length) :
    isBoundary s i = true := by
  unfold isBoundary
  split
  · rfl
  · split
    · rfl
    · cases hs : s[i]? with
      | none => have := List.getElem?_eq_none_iff.mp hs; omega
      | some y => have := h y (List.mem_of_getElem? hs); simp [isCont]; omega

theorem slice_ascii {s : Bytes} (h : ∀ y ∈ s, y < 128) (i j : Nat) (hij : i ≤ j) (hj : j ≤ s.length) :
    slice s i j = .ok ((s.drop i).take (j - i)) := by
  simp [slice, isBoundary_ascii h (Nat.le_trans hij hj), isBoundary_ascii h hj, hij, hj]

theorem sliceFrom_ascii {s : Bytes} (h : ∀ y ∈ s, y < 128) (i : Nat) (hi : i ≤ s.length) :
    sliceFrom s i = .ok (s.drop i) := by
  rw [sliceFrom, slice_ascii h i _ hi (Nat.le_refl _), List.take_of_length_le (by simp)]

/-! ### slices at literal positions

`slice_one_asc` is stated with `s[i]?.getD 0` so that it rewrites any `&s[i..i+1]`; on a text `b₀ :: b₁ :: … :: rest` the
simp set `token_slices` then reads the byte off. -/

attribute [token_slices] List.getElem?_cons_zero List.getElem?_cons_succ Option.getD_some Bool.and_self if_true
  Nat.reduceLT

/-- an ASCII text of at least `n` bytes; with `n` a literal, simp decides the side conditions `i < n` -/
structure AsciiText (s : Bytes) (n : Nat) : Prop where
  len : n ≤ s.length
  asc : ∀ y ∈ s, y < 128

theorem slice_one_asc {s : Bytes} {n : Nat} (A : AsciiText s n) (i : Nat) (hi : i < n) :
    slice s i (i + 1) = .ok [s[i]?.getD 0] := by
  have hlt : i < s.length := Nat.lt_of_lt_of_le hi A.len
  rw [slice_ascii A.asc i (i + 1) (by omega) (by omega), Nat.add_sub_cancel_left, List.take_one, List.head?_drop,
    List.getElem?_eq_getElem hlt]
  rfl

end EspadaVerif
