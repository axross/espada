/-
Lemmas/IterLoop: the loop of `next` and the drain.  `Runs s outs s'` records a finite run of `step`
(one output per raw position: `some sd` = yield, `none` = skip), `Halts` a run that ends where `step` answers
`done`, within the fuel of `next`.  The outputs are named before the run: `outsOf` (raw), `rowOf` / `drainOf` (the
showdowns), with `drainOf = (deals …).map sdOf`; the iterator of a proper input runs through `outsOf`, i.e.
`positionsBetween a b × product ranges` in order, and stops at `b` (`run_rows`).
-/
import EspadaVerif.Lemmas.IterAttempt

namespace EspadaVerif.IterLemmas
open Spec EspadaVerif.C02

variable {W : Type}

inductive Runs (ops : WOps W) : IterState W → List (Option (Showdown W)) → IterState W → Prop
  | nil (s : IterState W) : Runs ops s [] s
  | yield {s s1 s' : IterState W} {sd : Showdown W} {outs : List (Option (Showdown W))} :
      step ops s = .ok (.yield sd, s1) → Runs ops s1 outs s' → Runs ops s (some sd :: outs) s'
  | skip {s s1 s' : IterState W} {outs : List (Option (Showdown W))} :
      step ops s = .ok (.skip, s1) → Runs ops s1 outs s' → Runs ops s (none :: outs) s'

theorem advance_cases (s : IterState W) :
    (∃ k, incrementable s.idx (s.entries.map List.length) = some k
        ∧ advance s = { s with idx := bump s.idx k })
    ∨ (incrementable s.idx (s.entries.map List.length) = none
        ∧ advance s = { s with t := (nextPos (s.t, s.r)).1, r := (nextPos (s.t, s.r)).2,
                               idx := List.replicate s.idx.length 0 }) := by
  unfold advance
  cases hinc : incrementable s.idx (s.entries.map List.length) with
  | some k => exact Or.inl ⟨k, rfl, rfl⟩
  | none =>
    refine Or.inr ⟨rfl, ?_⟩
    simp only [nextPos, show Gen.riverRollover = 48 from rfl]
    split <;> rfl

/-- `step` in one equation: the two reasons to stop in one test, the stop test as a proposition.  That test is
the source's `current_turn_index >= turn_to && current_river_index >= river_to` (`flop_exhaustive.rs` 110):
componentwise, not lexicographic.  It cannot fire before the bound `b` (`step_st`), but a position beyond `b`
may fail it (`(11, 12)` against `b = (10, 30)`), so the run has to arrive exactly AT `b`: this is what
`ValidScope` is for (`run_rows` walks from a valid `p ≤ b` by `nextPos`, the successor among valid positions). -/
theorem step_eq (ops : WOps W) (s : IterState W) :
    step ops s = if (s.turnTo ≤ s.t ∧ s.riverTo ≤ s.r) ∨ s.entries.any List.isEmpty = true then .ok (.done, s)
      else match attempt ops s with
        | .ok (some sd) => .ok (.yield sd, advance s)
        | .ok none => .ok (.skip, advance s)
        | _ => .panic := by
  unfold step
  split
  · next h => rw [if_pos (.inl (by simpa using h))]
  · next h =>
    split
    · next h2 => rw [if_pos (.inr h2)]
    · next h2 => rw [if_neg (by simpa [h2] using h)]; rfl

theorem step_cases (ops : WOps W) {s s' : IterState W} {o : StepOut W} (h : step ops s = .ok (o, s')) :
    (o = .done ∧ s' = s)
    ∨ (s' = advance s ∧ ¬ (s.turnTo ≤ s.t ∧ s.riverTo ≤ s.r)
        ∧ ¬ (s.entries.any List.isEmpty = true) ∧ (o = .skip ∨ ∃ sd, o = .yield sd)) := by
  rw [step_eq] at h
  split at h
  · cases h; exact .inl ⟨rfl, rfl⟩
  rename_i hstop
  split at h <;> cases h
  · exact .inr ⟨rfl, fun h => hstop (.inl h), fun h => hstop (.inr h), .inr ⟨_, rfl⟩⟩
  · exact .inr ⟨rfl, fun h => hstop (.inl h), fun h => hstop (.inr h), .inl rfl⟩

theorem step_entries (ops : WOps W) {s s' : IterState W} {o : StepOut W} (h : step ops s = .ok (o, s')) :
    s'.entries = s.entries := by
  rcases step_cases ops h with ⟨_, e⟩ | ⟨e, _⟩ <;> rw [e]
  rcases advance_cases s with ⟨_, _, e⟩ | ⟨_, e⟩ <;> rw [e]

theorem Runs.entries {ops : WOps W} {s s' : IterState W} {outs : List (Option (Showdown W))}
    (h : Runs ops s outs s') : s'.entries = s.entries := by
  induction h with
  | nil => rfl
  | yield hs _ ih => rw [ih, step_entries ops hs]
  | skip hs _ ih => rw [ih, step_entries ops hs]

theorem Runs.append {ops : WOps W} {s s1 s2 : IterState W} {o1 o2 : List (Option (Showdown W))}
    (h1 : Runs ops s o1 s1) (h2 : Runs ops s1 o2 s2) : Runs ops s (o1 ++ o2) s2 := by
  induction h1 with
  | nil => exact h2
  | yield hs _ ih => exact Runs.yield hs (ih h2)
  | skip hs _ ih => exact Runs.skip hs (ih h2)

/-- `step` is a function: the run from a state to a `done` state is unique -/
theorem Runs.unique {ops : WOps W} {s e1 e2 : IterState W} {o1 o2 : List (Option (Showdown W))}
    (h1 : Runs ops s o1 e1) (d1 : step ops e1 = .ok (.done, e1))
    (h2 : Runs ops s o2 e2) (d2 : step ops e2 = .ok (.done, e2)) : o2 = o1 ∧ e2 = e1 := by
  induction h1 generalizing o2 with
  | nil s => cases h2 with
    | nil => exact ⟨rfl, rfl⟩
    | yield hs _ | skip hs _ => cases d1.symm.trans hs
  | yield hs _ ih | skip hs _ ih => cases h2 with
    | nil => cases d2.symm.trans hs
    | yield hs' hr' | skip hs' hr' =>
      cases hs.symm.trans hs' <;> exact (ih d1 hr').imp_left (congrArg _)

theorem Runs.cons_out {ops : WOps W} {s s1 s' : IterState W} {o : Option (Showdown W)}
    {outs : List (Option (Showdown W))}
    (hs : step ops s = match o with
      | some sd => .ok (.yield sd, s1)
      | none => .ok (.skip, s1))
    (h : Runs ops s1 outs s') : Runs ops s (o :: outs) s' := by
  cases o with
  | some sd => exact Runs.yield hs h
  | none => exact Runs.skip hs h

theorem fuelFor_eq {s s' : IterState W} (h : s'.entries = s.entries) : fuelFor s' = fuelFor s := by
  unfold fuelFor; rw [h]

theorem fuelFor_pos (s : IterState W) : 0 < fuelFor s := by
  simp [fuelFor]

/-- a complete run within the fuel of `next`: the loop performs the iterations `outs` from `s` and reaches `sEnd`,
where `step` answers `done` -/
structure Halts (ops : WOps W) (s : IterState W) (outs : List (Option (Showdown W))) (sEnd : IterState W) : Prop where
  runs : Runs ops s outs sEnd
  done : step ops sEnd = .ok (.done, sEnd)
  fuel : outs.length < fuelFor sEnd

theorem Halts.nil {ops : WOps W} {s : IterState W} (h : step ops s = .ok (.done, s)) : Halts ops s [] s :=
  ⟨.nil s, h, fuelFor_pos s⟩

/-- the loop of `next` on a complete run, with any fuel above the length of the run: the first showdown of the
run, if there is one, and the state from which the rest of the run goes on -/
theorem Halts.nextFuel_spec {ops : WOps W} {s sEnd : IterState W} {outs : List (Option (Showdown W))}
    (h : Halts ops s outs sEnd) {fuel : Nat} (hf : outs.length < fuel) :
    ∃ s1 outs1, nextFuel ops fuel s = .ok ((outs.filterMap id).head?, s1) ∧ Halts ops s1 outs1 sEnd
      ∧ outs1.filterMap id = (outs.filterMap id).tail ∧ (outs.filterMap id = [] → s1 = sEnd) := by
  obtain ⟨hr, hdone, hfuel⟩ := h
  induction hr generalizing fuel with
    obtain ⟨f, rfl⟩ := Nat.exists_eq_add_one_of_ne_zero (Nat.ne_zero_of_lt hf)
  | nil s => exact ⟨s, [], by simp only [nextFuel, hdone]; rfl, .nil hdone, rfl, fun _ => rfl⟩
  | @yield s s1 _ sd outs hs hr' _ =>
    exact ⟨s1, outs, by simp only [nextFuel, hs]; rfl, ⟨hr', hdone, Nat.lt_of_succ_lt hfuel⟩, rfl,
      fun h => nomatch h⟩
  | skip hs _ ih =>
    obtain ⟨s2, outs2, h1, h2⟩ := ih (Nat.lt_of_succ_lt_succ hf) hdone (Nat.lt_of_succ_lt hfuel)
    exact ⟨s2, outs2, by simp only [nextFuel, hs]; exact h1, h2⟩

/-- one `next()` on a complete run -/
theorem Halts.next_spec {ops : WOps W} {s sEnd : IterState W} {outs : List (Option (Showdown W))}
    (h : Halts ops s outs sEnd) :
    ∃ s1 outs1, next ops s = .ok ((outs.filterMap id).head?, s1) ∧ Halts ops s1 outs1 sEnd
      ∧ outs1.filterMap id = (outs.filterMap id).tail ∧ (outs.filterMap id = [] → s1 = sEnd) :=
  h.nextFuel_spec (fuelFor_eq h.runs.entries ▸ h.fuel)

/-- draining a complete run with ANY limit: the first `limit` showdowns of the run; all of them, and the end
state, when the limit is above their number.  (`next ops s` is rewritten as a whole, never unfolded or matched
on afresh: because of the literal in `fuelFor` the kernel needs seconds to bring `nextFuel ops (fuelFor s) s` to
weak head normal form.) -/
theorem Halts.drainFuel_spec {ops : WOps W} {sEnd : IterState W} :
    ∀ (limit : Nat) {s : IterState W} {outs : List (Option (Showdown W))} (acc : List (Showdown W)),
      Halts ops s outs sEnd →
      ∃ s', drainFuel ops limit s acc = .ok (acc.reverse ++ (outs.filterMap id).take limit, s')
        ∧ ((outs.filterMap id).length < limit → s' = sEnd) := by
  intro limit
  induction limit with
  | zero => exact fun {s} _ _ _ => ⟨s, by simp [drainFuel], fun h => nomatch h⟩
  | succ l ih =>
    intro s outs acc h
    obtain ⟨s1, outs1, h1, h2, h3, h4⟩ := h.next_spec
    rw [drainFuel, h1]
    cases hsds : outs.filterMap id with
    | nil => exact ⟨s1, by simp, fun _ => h4 hsds⟩
    | cons sd rest =>
      obtain ⟨s', e, hend⟩ := ih (sd :: acc) h2
      rw [h3, hsds] at e hend
      exact ⟨s', by simpa using e, fun h => hend (by simpa using h)⟩

/-- a drain that stopped before its limit (on `next() = None`) returns the same with any larger limit -/
theorem drainFuel_mono (ops : WOps W) : ∀ (L : Nat) (s : IterState W) (acc sds : List (Showdown W)) (e : IterState W),
    drainFuel ops L s acc = .ok (sds, e) → sds.length < L + acc.length →
    ∀ L', L ≤ L' → drainFuel ops L' s acc = .ok (sds, e)
  | 0, _, _, _, _, h, hl, _, _ => by
    cases h
    simp at hl
  | L + 1, s, acc, sds, e, h, hl, L' + 1, hL' => by
    rw [drainFuel] at h ⊢
    split at h
    · exact drainFuel_mono ops L _ _ sds e h (by simp only [List.length_cons]; omega) L' (by omega)
    · exact h
    · cases h
    · cases h

/-- the drain of a complete run: its showdowns, for every limit above their number; then `next` answers `None` -/
theorem Halts.drain {ops : WOps W} {s₀ sEnd : IterState W} {outs : List (Option (Showdown W))}
    (h : Halts ops s₀ outs sEnd) :
    (∀ limit, (outs.filterMap id).length < limit → drainFuel ops limit s₀ [] = .ok (outs.filterMap id, sEnd))
      ∧ next ops sEnd = .ok (none, sEnd) := by
  refine ⟨fun limit hlim => ?_, ?_⟩
  · obtain ⟨s', e, hend⟩ := h.drainFuel_spec limit []
    rw [e, List.take_of_length_le (Nat.le_of_lt hlim), hend hlim]
    rfl
  · obtain ⟨_, _, e, _, _, hs⟩ := (Halts.nil h.done).next_spec
    cases hs rfl
    exact e

/-- the ranges hold combos of two VALID cards, in any order, equal cards allowed: all that the lemmas about the
iterator ask of them -/
def RV (ranges : List (List (Combo × W))) : Prop := ∀ es ∈ ranges, ChV es

theorem chV_of_product {ranges : List (List (Combo × W))} (hr : RV ranges) {ch : List (Combo × W)}
    (h : ch ∈ product ranges) : ChV ch := by
  intro e he
  obtain ⟨es, hes, hm⟩ := mem_of_mem_product h e he
  exact hr es hes e hm

end EspadaVerif.IterLemmas

namespace EspadaVerif.C04
open Spec EspadaVerif.IterLemmas

variable {W : Type}

/-- the showdowns of one position: does not depend on the scope -/
def rowOf (ops : WOps W) (flop : List Card) (ranges : List (List (Combo × W))) (q : Nat × Nat) :
    List (Showdown W) :=
  ((product ranges).map (outOf ops flop q)).filterMap id

end EspadaVerif.C04

namespace EspadaVerif.IterLemmas
open Spec EspadaVerif.C02

variable {W : Type}

/-- the raw outputs (one per raw position × choice; `none` = blocked deal) of the scope `[a, b)` -/
def outsOf (ops : WOps W) (flop : List Card) (ranges : List (List (Combo × W))) (a b : Nat × Nat) :
    List (Option (Showdown W)) :=
  (positionsBetween a b).flatMap fun q => (product ranges).map (outOf ops flop q)

/-- the showdowns of the scope `[a, b)`, position by position -/
def drainOf (ops : WOps W) (flop : List Card) (ranges : List (List (Combo × W))) (a b : Nat × Nat) :
    List (Showdown W) :=
  (positionsBetween a b).flatMap (C04.rowOf ops flop ranges)

theorem outsOf_filterMap (ops : WOps W) (flop : List Card) (ranges : List (List (Combo × W))) (a b : Nat × Nat) :
    (outsOf ops flop ranges a b).filterMap id = drainOf ops flop ranges a b :=
  List.filterMap_flatMap

theorem outsOf_length (ops : WOps W) (flop : List Card) (ranges : List (List (Combo × W))) (a b : Nat × Nat) :
    (outsOf ops flop ranges a b).length
      = (positionsBetween a b).length * (ranges.map List.length).foldl (· * ·) 1 := by
  rw [foldl_mul_lengths ranges 1, Nat.one_mul]
  exact Lemmas.length_flatMap_const _ _ _ fun q _ => by simp

/-- an empty range: no raw position at all -/
theorem outsOf_of_empty (ops : WOps W) (flop : List Card) {ranges : List (List (Combo × W))} (a b : Nat × Nat)
    (h : ∃ es ∈ ranges, es = []) : outsOf ops flop ranges a b = [] := by
  unfold outsOf
  rw [product_eq_nil ranges h]
  exact List.flatMap_eq_nil_iff.mpr fun _ _ => rfl

/-- the row of a position is the image of the specification's deals at that position -/
theorem rowOf_eq_map (ops : WOps W) {flop : List Card} {ranges : List (List (Combo × W))} {q : Nat × Nat}
    (hf : WfFlop flop) (hr : RV ranges) (hq : q.1 < q.2 ∧ q.2 < 49) :
    C04.rowOf ops flop ranges q = (dealsAt (flop.map Card.code) (specEntries ranges) q).map (sdOf ops flop) := by
  rw [dealsAt_specEntries, ← List.filterMap_eq_filter, List.map_filterMap, List.filterMap_map, C04.rowOf,
    List.filterMap_map]
  exact Lemmas.filterMap_congr fun ch hch =>
    (outOf_eq ops hf hq (chV_of_product hr hch)).trans Option.map_guard.symm

/-- **the drain is the image of the specification:** one showdown per legal deal of the scope, in order (no
validity of the scope is needed) -/
theorem drainOf_eq_map (ops : WOps W) {flop : List Card} {ranges : List (List (Combo × W))} (a b : Nat × Nat)
    (hf : WfFlop flop) (hr : RV ranges) :
    drainOf ops flop ranges a b = (deals (flop.map Card.code) (specEntries ranges) a b).map (sdOf ops flop) := by
  rw [deals_eq_blocks, List.map_flatMap]
  exact Lemmas.flatMap_congr fun q hq => rowOf_eq_map ops hf hr (mem_positionsBetween hq)

theorem drainOf_append (ops : WOps W) (flop : List Card) (ranges : List (List (Combo × W))) {a b c : Nat × Nat}
    (hab : posLe a b = true) (hbc : posLe b c = true) :
    drainOf ops flop ranges a b ++ drainOf ops flop ranges b c = drainOf ops flop ranges a c := by
  unfold drainOf
  rw [← List.flatMap_append, positionsBetween_append hab hbc]

theorem step_st (ops : WOps W) {flop : List Card} {ranges : List (List (Combo × W))} {b p : Nat × Nat}
    {v : List Nat} {ch : List (Combo × W)} (hf : WfFlop flop) (hp : p.1 < p.2 ∧ p.2 < 49)
    (hlt : posLt p b = true) (hne : ∀ es ∈ ranges, es ≠ [])
    (hpick : pick ranges v = some ch) (hch : ChV ch) :
    step ops (st flop ranges b p v) = match outOf ops flop p ch with
      | some sd => .ok (.yield sd, advance (st flop ranges b p v))
      | none => .ok (.skip, advance (st flop ranges b p v)) := by
  rw [step_eq, if_neg, attempt_out ops b hf hp hpick hch]
  · cases outOf ops flop p ch <;> rfl
  · rw [posLt_iff] at hlt
    rintro (⟨h1, h2⟩ | h)
    · exact absurd (show b.1 ≤ p.1 ∧ b.2 ≤ p.2 from ⟨h1, h2⟩) (by omega)
    · obtain ⟨es, hes, he⟩ := List.any_eq_true.mp h
      exact hne es hes (List.isEmpty_iff.mp he)

theorem step_done (ops : WOps W) {s : IterState W} (h : s.turnTo ≤ s.t ∧ s.riverTo ≤ s.r) :
    step ops s = .ok (.done, s) := by
  rw [step_eq, if_pos (.inl h)]

theorem step_empty (ops : WOps W) (flop : List Card) {ranges : List (List (Combo × W))} (b p : Nat × Nat)
    (v : List Nat) (h : ∃ es ∈ ranges, es = []) :
    step ops (st flop ranges b p v) = .ok (.done, st flop ranges b p v) := by
  rw [step_eq, if_pos (.inr (by simpa [st] using h))]

theorem advance_st (flop : List Card) {ranges : List (List (Combo × W))} (b p : Nat × Nat) {v : List Nat}
    (hlen : v.length = ranges.length) :
    advance (st flop ranges b p v) = match incrementable v (ranges.map List.length) with
      | some k => st flop ranges b p (bump v k)
      | none => st flop ranges b (nextPos p) (List.replicate ranges.length 0) := by
  rcases advance_cases (st flop ranges b p v) with ⟨k, h, e⟩ | ⟨h, e⟩ <;>
    rw [e, show incrementable v (ranges.map List.length) = _ from h]
  · rfl
  · rw [← hlen]
    rfl

/-- from counters `v` at position `p`, with the choices `l` ahead (`Odo`): the rest of the row, then the start of
the next position -/
theorem run_row (ops : WOps W) {flop : List Card} {ranges : List (List (Combo × W))} {b p : Nat × Nat}
    (hf : WfFlop flop) (hr : RV ranges) (hp : p.1 < p.2 ∧ p.2 < 49)
    (hlt : posLt p b = true) (hne : ∀ es ∈ ranges, es ≠ []) {v : List Nat} {l : List (List (Combo × W))}
    (h : Odo ranges v l) :
    Runs ops (st flop ranges b p v) (l.map (outOf ops flop p))
      (st flop ranges b (nextPos p) (List.replicate ranges.length 0)) := by
  induction l generalizing v with
  | nil => exact absurd h Odo.ne_nil
  | cons ch rest ih =>
    have hstep := step_st ops hf hp hlt hne h.pick_eq (chV_of_product hr (pick_mem_product h.pick_eq))
    have hodo := h.step hne
    rw [advance_st flop b p h.length_eq] at hstep
    -- the odometer either steps to the next choice or has reached the last
    cases hinc : incrementable v (ranges.map List.length) with
    | none =>
      rw [hinc] at hstep hodo
      exact Runs.cons_out hstep (hodo ▸ Runs.nil _)
    | some k =>
      rw [hinc] at hstep hodo
      exact Runs.cons_out hstep (ih hodo)

/-- from the start of position `p` to the bound `b` (by induction on the number of positions still ahead) -/
theorem run_rows (ops : WOps W) {flop : List Card} {ranges : List (List (Combo × W))} {b : Nat × Nat}
    (hf : WfFlop flop) (hr : RV ranges) (hne : ∀ es ∈ ranges, es ≠ []) (hb : validPos b = true)
    {p : Nat × Nat} (hpv : validPos p = true) (hle : posLe p b = true) :
    Runs ops (st flop ranges b p (List.replicate ranges.length 0)) (outsOf ops flop ranges p b)
      (st flop ranges b b (List.replicate ranges.length 0)) := by
  generalize hn : (positionsBetween p b).length = n
  induction n using Nat.strongRecOn generalizing p with
  | _ n ih =>
    rcases (posLe_iff_lt_or_eq p b).mp hle with hlt | rfl
    · obtain ⟨hp, hnv, hnle⟩ := nextPos_valid hpv hb hlt
      rw [positionsBetween_step hp hnle] at hn
      rw [outsOf, positionsBetween_step hp hnle, List.flatMap_cons]
      exact (run_row ops hf hr hp hlt hne (Odo.zero ranges hne)).append
        (ih _ (by rw [← hn]; simp) hnv hnle rfl)
    · rw [outsOf, positionsBetween_self]
      exact Runs.nil _

theorem intoIter_eq (flop : List Card) (ranges : List (List (Combo × W))) (a b : Nat × Nat) (hf : WfFlop flop) :
    (mkEvaluator flop ranges a b).intoIter = .ok (st flop ranges b a (List.replicate ranges.length 0)) := by
  rw [intoIter_def]
  simp only [mkEvaluator, boardDeck_eq_deckOf flop hf.valid]
  exact if_pos (deckOf_length hf)

end EspadaVerif.IterLemmas
