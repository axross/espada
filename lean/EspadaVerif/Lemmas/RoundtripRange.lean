/-
Lemmas/RoundtripRange: the pieces of C06 (range part): `parseRange` on the joined texts of tokens that parse back, the
25 rows the formatter walks (`RowOk`) and the expansion of the token of a run of such a row, and the two facts about the
formatter's token list — every expanded entry is an entry of the range (soundness) and every entry of the range is in
some token's expansion (coverage).
-/
import EspadaVerif.Lemmas.CardFacts
import EspadaVerif.Lemmas.NotationList
import EspadaVerif.Lemmas.RangeAux
import EspadaVerif.Lemmas.FormatFacts
import EspadaVerif.Lemmas.RoundtripToken

namespace EspadaVerif.RoundtripRange
open TextDefs TokenFacts RoundtripToken

variable {W : Type}

theorem parseRange_join_show (wt : WText W) (toks : List (Token W))
    (h : ∀ tok ∈ toks, parseToken wt (tok.show wt) = .ok tok) :
    ∃ r', parseRange wt (joinCommas (toks.map (Token.show wt))) = .ok r' ∧
      ∀ e, e ∈ r' ↔ ∃ tok ∈ toks, ∃ es, tok.expand = .ok es ∧ e ∈ es := by
  refine ⟨_, NotationList.parseRange_join wt _ fun p hp => ?_, fun e => ?_⟩
  · obtain ⟨tok, ht, rfl⟩ := List.mem_map.mp hp
    exact clean_of_parse wt (h tok ht)
  simp only [List.mem_reverse, List.mem_flatMap, List.mem_map]
  constructor
  · rintro ⟨_, ⟨tok, ht, rfl⟩, he⟩
    obtain ⟨tok', es, h1, h2, h3⟩ := RangeAux.mem_pieceEntries wt he
    cases (h tok ht).symm.trans h1
    exact ⟨tok, ht, es, h2, h3⟩
  · rintro ⟨tok, ht, es, h2, h3⟩
    exact ⟨_, ⟨tok, ht, rfl⟩, by rwa [RangeAux.pieceEntries_ok wt (h tok ht) h2]⟩

/-- `hs` speaks of every entry of the history `r'`, overwritten ones included, so no `Nodup` of its keys is needed -/
theorem lookup_eq_of (r r' : HandRange W) (hs : ∀ c w, (c, w) ∈ r' → r.lookup c = some w)
    (hc : ∀ c w, r.lookup c = some w → ∃ w', (c, w') ∈ r') (c : Combo) : r'.lookup c = r.lookup c := by
  cases h' : r'.lookup c with
  | some w => exact (hs c w (HandRange.mem_of_lookup h')).symm
  | none =>
    cases h : r.lookup c with
    | none => rfl
    | some w =>
      obtain ⟨w', hw'⟩ := hc c w h
      exact absurd hw' (HandRange.lookup_eq_none_iff.mp h' w')

/-- the 25 rows the formatter walks: the pockets, and under each high card the suited and the offsuit kickers -/
inductive RowOk : Nat → (Nat → RankPair) → Prop
  | pocket : RowOk 0 .pocket
  | suited (h : Nat) (hh : h < 12) : RowOk (h + 1) (.suited h)
  | ofsuit (h : Nat) (hh : h < 12) : RowOk (h + 1) (.ofsuit h)

theorem RowOk.first_le {first : Nat} {mk : Nat → RankPair} (h : RowOk first mk) : first ≤ 12 := by
  cases h <;> omega

theorem RowOk.canonical {first : Nat} {mk : Nat → RankPair} (h : RowOk first mk) (k : Nat) (h1 : first ≤ k)
    (h2 : k < 13) : RankPair.canonical (mk k) := by
  cases h with
  | pocket => exact h2
  | suited h hh => exact ⟨by omega, h2⟩
  | ofsuit h hh => exact ⟨by omega, h2⟩

theorem RowOk.of_canonical {rp : RankPair} (h : RankPair.canonical rp) :
    ∃ first mk k, RowOk first mk ∧ first ≤ k ∧ k < 13 ∧ rp = mk k := by
  cases rp with
  | pocket r => exact ⟨0, .pocket, r, .pocket, Nat.zero_le _, h, rfl⟩
  | suited a b => exact ⟨a + 1, .suited a, b, .suited a (by have := h.1; have := h.2; omega), h.1, h.2, rfl⟩
  | ofsuit a b => exact ⟨a + 1, .ofsuit a, b, .ofsuit a (by have := h.1; have := h.2; omega), h.1, h.2, rfl⟩

theorem mem_rankPairText (wt : WText W) (tbl : RankPair → Option W) (tok : Token W) :
    tok ∈ C17.rankPairText wt tbl ↔ ∃ first mk, RowOk first mk ∧ tok ∈ C17.rowText wt tbl first mk := by
  simp only [C17.rankPairText, List.mem_append, List.mem_flatMap, List.mem_range]
  constructor
  · rintro (h | ⟨h, hh, h1 | h1⟩)
    · exact ⟨_, _, .pocket, h⟩
    · exact ⟨_, _, .suited h hh, h1⟩
    · exact ⟨_, _, .ofsuit h hh, h1⟩
  · rintro ⟨_, _, hrow, h⟩
    cases hrow with
    | pocket => exact .inl h
    | suited a ha => exact .inr ⟨a, ha, .inl h⟩
    | ofsuit a ha => exact .inr ⟨a, ha, .inr h⟩

/-! The three token shapes on a row: `X+` is the run from the top of the row down to `X`, `X-Y` the run from `X` to `Y`,
a single rank pair the run of length one.  Below, the three kinds of row are told apart only through these three lemmas. -/

theorem RowOk.bottom {first : Nat} {mk : Nat → RankPair} (h : RowOk first mk) {k : Nat} (h1 : first ≤ k) (h2 : k < 13)
    (w : W) : TokenOk (.bottomClosed (mk k)) ∧ Token.expand ⟨.bottomClosed (mk k), w⟩ = expandRun first k mk w := by
  have hc := h.canonical k h1 h2
  cases h with
  | pocket => exact ⟨hc, rfl⟩
  | suited a ha => exact ⟨hc, by simp only [Token.expand, rankNext_succ a (by omega)]⟩
  | ofsuit a ha => exact ⟨hc, by simp only [Token.expand, rankNext_succ a (by omega)]⟩

theorem RowOk.single {first : Nat} {mk : Nat → RankPair} (h : RowOk first mk) {k : Nat} (h1 : first ≤ k)
    (h2 : k < 13) : TokenOk (.singleRank (mk k)) := by
  cases h with
  | pocket => exact h2
  | suited a ha => exact ⟨by omega, by omega, h2⟩
  | ofsuit a ha => exact ⟨by omega, by omega, h2⟩

theorem RowOk.double {first : Nat} {mk : Nat → RankPair} (h : RowOk first mk) {a b : Nat} (h1 : first ≤ a)
    (h2 : a < b) (h3 : b < 13) (w : W) :
    TokenOk (.doubleClosed (mk a) b) ∧ Token.expand ⟨.doubleClosed (mk a) b, w⟩ = expandRun a b mk w := by
  cases h with
  | pocket => exact ⟨⟨Nat.le_of_lt h2, h3⟩, rfl⟩
  | suited => exact ⟨⟨h1, h2, h3⟩, rfl⟩
  | ofsuit => exact ⟨⟨h1, h2, h3⟩, rfl⟩

/-- the token of a run that fits in the row is well formed and expands to the combos of the run's rank pairs
`mk (first + s) … mk (first + s + n - 1)`, each with the run's weight -/
theorem runToken_spec {first : Nat} {mk : Nat → RankPair} (hrow : RowOk first mk) (run : Nat × Nat × W)
    (hn : 1 ≤ run.2.1) (hsn : first + run.1 + run.2.1 ≤ 13) :
    TokenOk (C17.runToken first mk run).kind ∧
    (C17.runToken first mk run).expand
      = .ok ((List.range' (first + run.1) run.2.1).flatMap fun k => (mk k).combos.map fun cp => (cp, run.2.2)) := by
  obtain ⟨s, n, w⟩ := run
  simp only at hn hsn ⊢
  have run : ∀ a b, a + n = b + 1 → b < 13 →
      expandRun a b mk w = .ok ((List.range' a n).flatMap fun r => (mk r).combos.map fun cp => (cp, w)) := by
    intro a b hab hb
    rw [expandRun_eq a b mk w (by omega) hb, show b + 1 - a = n by omega]
  simp only [C17.runToken]
  split
  · next h =>
    obtain ⟨rfl, h2⟩ := h
    obtain ⟨hk, he⟩ := hrow.bottom (k := first + n - 1) (by omega) (by omega) w
    exact ⟨hk, he.trans (run _ _ (by omega) (by omega))⟩
  · split
    · next h2 =>
      subst h2
      exact ⟨hrow.single (by omega) (by omega), by simp [Token.expand]⟩
    · obtain ⟨hk, he⟩ := hrow.double (a := first + s) (b := first + s + n - 1) (by omega) (by omega) (by omega) w
      exact ⟨hk, he.trans (run _ _ (by omega) (by omega))⟩

/-! A row of any table that is the true one: the tokens of its runs expand to entries of the range, and to every combo
of every listed rank pair of the row. -/

section
variable {wt : WText W} {inDom : W → Prop} (heq : ∀ a b, inDom a → inDom b → (wt.eq a b = true ↔ a = b))
  {r : HandRange W} (hr : ∀ c w, r.lookup c = some w → inDom w) {tbl : RankPair → Option W} (htbl : C17.TrueTable r tbl)
  {first : Nat} {mk : Nat → RankPair} (hrow : RowOk first mk)

include heq hr htbl hrow

theorem row_sound (tok : Token W) (ht : tok ∈ C17.rowText wt tbl first mk) :
    TokenOk tok.kind ∧ inDom tok.prob ∧ ∀ es, tok.expand = .ok es → ∀ e ∈ es, r.lookup e.1 = some e.2 := by
  have hfin := htbl.runsFinal hr heq first mk
  obtain ⟨run, hrun, rfl⟩ := List.mem_map.mp ht
  obtain ⟨t1, t2⟩ := runToken_spec hrow run (hfin.row_nonempty hrun) (hfin.row_fits hrun)
  refine ⟨t1, ?_, fun es hes e he => ?_⟩
  · rw [FormatFacts.runToken_prob]
    exact htbl.dom hr _ _ (hfin.row_weight hrun)
  · cases t2.symm.trans hes
    simp only [List.mem_flatMap, List.mem_map, List.mem_range'_1] at he
    obtain ⟨k, ⟨hk1, hk2⟩, c, hc, rfl⟩ := he
    obtain ⟨j, rfl⟩ := Nat.exists_eq_add_of_le (show first ≤ k by omega)
    exact ((htbl _ _).mp (hfin.row_const heq (htbl.dom hr) hrun (by omega) (by omega))).2 c hc

theorem row_cover (k : Nat) (hk1 : first ≤ k) (hk2 : k < 13) (w : W) (hl : tbl (mk k) = some w) (c : Combo)
    (hc : c ∈ (mk k).combos) : ∃ tok ∈ C17.rowText wt tbl first mk, ∃ es w', tok.expand = .ok es ∧ (c, w') ∈ es := by
  have hfin := htbl.runsFinal hr heq first mk
  obtain ⟨j, rfl⟩ := Nat.exists_eq_add_of_le hk1
  obtain ⟨run, hrun, hr1, hr2⟩ := hfin.row_cover hk2 hl
  refine ⟨_, List.mem_map.mpr ⟨_, hrun, rfl⟩, _, run.2.2,
    (runToken_spec hrow run (hfin.row_nonempty hrun) (hfin.row_fits hrun)).2, ?_⟩
  simp only [List.mem_flatMap, List.mem_map, List.mem_range'_1]
  exact ⟨_, ⟨by omega, by omega⟩, c, hc, rfl⟩

end

/-- the orphan pass visits every real combo -/
theorem orph_cover (o : HandRange W) (c : Combo) (hc : ComboOk c) (w : W) (h : o.lookup c = some w) :
    (⟨.singleCard c, w⟩ : Token W) ∈ C17.leftoverText o := by
  obtain ⟨⟨r1, s1⟩, ⟨r2, s2⟩⟩ := c
  obtain ⟨v1, v2, hlt⟩ := hc
  simp only [Card.valid_iff] at v1 v2
  have hle : r1 ≤ r2 := by
    simp only [Card.lt_iff] at hlt
    omega
  simp only [C17.leftoverText, List.mem_flatMap]
  refine ⟨r1, List.mem_range.mpr v1.1, r2, List.mem_range'_1.mpr (by omega), s1, List.mem_range.mpr v1.2, s2,
    List.mem_range.mpr v2.2, ?_⟩
  rw [C14.mkPair_of_lt hlt, h]
  simp

section
variable (wt : WText W) (inDom : W → Prop) (hok : WTextOk wt inDom) (r : HandRange W)
  (hr : ∀ c w, r.lookup c = some w → ComboOk c ∧ inDom w)

include hr

theorem orph_sound (tok : Token W) (ht : tok ∈ C17.leftoverText (RankPairFacts.orphList wt r)) :
    TokenOk tok.kind ∧ inDom tok.prob ∧ ∀ es, tok.expand = .ok es → ∀ e ∈ es, r.lookup e.1 = some e.2 := by
  obtain ⟨c, p, rfl, hl⟩ := FormatFacts.leftoverText_kind _ tok ht
  rw [RankPairFacts.lookup_orphList] at hl
  split at hl
  · cases hl
  · obtain ⟨hc, hp⟩ := hr _ _ hl
    refine ⟨(tokenOk_singleCard_iff c).mpr hc, hp, ?_⟩
    rintro _ ⟨⟩ e he
    rw [List.mem_singleton.mp he]
    exact hl

include hok

/-- every token `Display` writes is well formed, carries a weight of the domain and expands to entries of the range -/
theorem toks_sound (toks : List (Token W)) (htoks : showRangeTokens wt r = .ok toks) (tok : Token W) (ht : tok ∈ toks) :
    TokenOk tok.kind ∧ inDom tok.prob ∧ ∀ es, tok.expand = .ok es → ∀ e ∈ es, r.lookup e.1 = some e.2 := by
  cases (FormatFacts.showRangeTokens_eq wt r).symm.trans htoks
  have hdom : ∀ c w, r.lookup c = some w → inDom w := fun c w hl => (hr c w hl).2
  rcases List.mem_append.mp ht with ht | ht
  · obtain ⟨first, mk, hrow, ht⟩ := (mem_rankPairText wt _ tok).mp ht
    exact row_sound hok.eq_iff hdom (C17.trueTable_rpList wt inDom hok.eq_iff r hdom) hrow tok ht
  · exact orph_sound wt inDom r hr tok ht

/-- every entry of the range is in the expansion of a written token, with some weight `w'`: that `w'` is the entry's own
weight is `toks_sound` -/
theorem toks_cover (toks : List (Token W)) (htoks : showRangeTokens wt r = .ok toks) (c : Combo) (w : W)
    (hl : r.lookup c = some w) : ∃ tok ∈ toks, ∃ es w', tok.expand = .ok es ∧ (c, w') ∈ es := by
  cases (FormatFacts.showRangeTokens_eq wt r).symm.trans htoks
  have hc : ComboOk c := (hr c w hl).1
  have hdom : ∀ c w, r.lookup c = some w → inDom w := fun c w hl => (hr c w hl).2
  have htbl := C17.trueTable_rpList wt inDom hok.eq_iff r hdom
  by_cases hrep : c ∈ (RankPairFacts.rpList wt r).flatMap (fun e => e.1.combos)
  · obtain ⟨rp, w0, hlk, hcm⟩ := (RankPairFacts.mem_reported_combos wt r c).mp hrep
    obtain ⟨first, mk, k, hrow, hk1, hk2, rfl⟩ := RowOk.of_canonical ((htbl rp w0).mp hlk).1
    obtain ⟨tok, ht, h⟩ := row_cover hok.eq_iff hdom htbl hrow k hk1 hk2 w0 hlk c hcm
    exact ⟨tok, List.mem_append_left _ ((mem_rankPairText wt _ tok).mpr ⟨first, mk, hrow, ht⟩), h⟩
  · have ho : (RankPairFacts.orphList wt r).lookup c = some w := by
      rw [RankPairFacts.lookup_orphList, if_neg hrep, hl]
    refine ⟨⟨.singleCard c, w⟩, List.mem_append_right _ (orph_cover _ c hc w ho), [(c, w)], w, rfl, by simp⟩

end

section
variable (wt : WText W) (inDom : W → Prop) (hok : WTextOk wt inDom) (r : HandRange W)
  (hr : ∀ e ∈ r, ComboOk e.1 ∧ inDom e.2)

include hok hr

theorem report (rp : RankPair) (w : W) :
    rpLookup (FormatFacts.rpList wt r) rp = some w ↔ (RankPair.canonical rp ∧ ∀ c ∈ rp.combos, r.lookup c = some w) :=
  C17.trueTable_rpList wt inDom hok.eq_iff r (r.contents_hyp_of_history (P := fun _ w => inDom w) fun e he => (hr e he).2)
    rp w

end

end EspadaVerif.RoundtripRange
