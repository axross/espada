/-
Lemmas/NotationList: range texts as lists of pieces (C05 list half, C06).  Splitting a comma-joined list of comma-free
texts gives the texts back, so such a text parses piece by piece (`parseRange_pieces`); `lookup` on a block of
entries that all carry the same weight; `comboCodes` is injective on real combos; stripping a string of spaces leaves
nothing.
-/
import EspadaVerif.Lemmas.RangeAux
import EspadaVerif.Lemmas.CardFacts

namespace EspadaVerif.NotationList
open TextDefs

variable {W : Type}

theorem go_nocomma (t rest cur : Bytes) (h : ∀ b ∈ t, b ≠ 44) :
    splitCommas.go (t ++ rest) cur = splitCommas.go rest (t.reverse ++ cur) := by
  induction t generalizing cur with
  | nil => rfl
  | cons b t ih =>
    have hb : b ≠ 44 := h b List.mem_cons_self
    simp only [List.cons_append, splitCommas.go, hb, if_false]
    rw [ih _ (fun x hx => h x (List.mem_cons_of_mem _ hx))]
    simp

theorem splitCommas_join (texts : List Bytes) (hne : texts ≠ []) (h : ∀ t ∈ texts, ∀ b ∈ t, b ≠ 44) :
    splitCommas (joinCommas texts) = texts := by
  unfold splitCommas
  induction texts using joinCommas.induct with
  | case1 => exact absurd rfl hne
  | case2 t =>
    have := go_nocomma t [] [] (h t List.mem_cons_self)
    rw [List.append_nil] at this
    simp only [joinCommas, this, splitCommas.go, List.append_nil, List.reverse_reverse]
  | case3 t rest hrest ih =>
    rw [joinCommas.eq_3 t rest hrest, List.append_assoc, go_nocomma t _ [] (h t List.mem_cons_self)]
    simp only [List.singleton_append, splitCommas.go, if_true, List.append_nil, List.reverse_reverse]
    rw [ih hrest fun x hx => h x (List.mem_cons_of_mem _ hx)]

theorem stripSpaces_clean (s : Bytes) (h : ∀ b ∈ s, b ≠ 32) : stripSpaces s = s := by
  unfold stripSpaces
  rw [List.filter_eq_self]
  intro b hb
  simpa using h b hb

theorem join_no_space (ps : List Bytes) (h : ∀ p ∈ ps, ∀ b ∈ p, b ≠ 32) : ∀ b ∈ joinCommas ps, b ≠ 32 := by
  induction ps using joinCommas.induct with
  | case1 => nofun
  | case2 t => exact h t List.mem_cons_self
  | case3 t rest hrest ih =>
    rw [joinCommas.eq_3 t rest hrest]
    simp only [List.mem_append, List.mem_singleton]
    rintro b ((hb | rfl) | hb)
    · exact h t List.mem_cons_self b hb
    · decide
    · exact ih (fun x hx => h x (List.mem_cons_of_mem _ hx)) b hb

/-- a text that, spaces removed, is a comma-joined list of comma-free pieces parses piece by piece (no piece at all is
the empty text: one empty piece, which is no token) -/
theorem parseRange_pieces (wt : WText W) (s : Bytes) (ps : List Bytes) (hs : stripSpaces s = joinCommas ps)
    (h : ∀ p ∈ ps, ∀ b ∈ p, b ≠ 44) : parseRange wt s = .ok (ps.flatMap (RangeAux.pieceEntries wt)).reverse := by
  rw [RangeAux.parseRange_eq, hs]
  cases ps with
  | nil => rfl
  | cons p ps => rw [splitCommas_join _ (List.cons_ne_nil _ _) h]

theorem parseRange_join (wt : WText W) (ps : List Bytes) (h : ∀ p ∈ ps, ∀ b ∈ p, b ≠ 32 ∧ b ≠ 44) :
    parseRange wt (joinCommas ps) = .ok (ps.flatMap (RangeAux.pieceEntries wt)).reverse :=
  parseRange_pieces wt _ ps (stripSpaces_clean _ (join_no_space ps fun p hp b hb => (h p hp b hb).1))
    fun p hp b hb => (h p hp b hb).2

theorem lookup_const (a : HandRange W) (w : W) (h : ∀ e ∈ a, e.2 = w) (c : Combo) :
    HandRange.lookup a c = if c ∈ a.map (·.1) then some w else none := by
  cases hl : a.lookup c with
  | some w' =>
    have hm := HandRange.mem_of_lookup hl
    rw [if_pos (List.mem_map.mpr ⟨_, hm, rfl⟩), ← h _ hm]
  | none =>
    rw [if_neg]
    rintro hc
    obtain ⟨e, he, rfl⟩ := List.mem_map.mp hc
    exact HandRange.lookup_eq_none_iff.mp hl e.2 he

theorem comboCodes_inj {c c' : Combo} (hc : ComboOk c) (hc' : ComboOk c') (h : comboCodes c = comboCodes c') :
    c = c' :=
  Combo.eq_of_codes hc.1 hc.2.1 hc'.1 hc'.2.1 h

theorem stripSpaces_spaces (s : Bytes) (h : ∀ b ∈ s, b = 32) : stripSpaces s = [] := by
  unfold stripSpaces
  rw [List.filter_eq_nil_iff]
  intro b hb
  simp [h b hb]

end EspadaVerif.NotationList
