/-
Lemmas/RangeAux: facts about the range model (`Model/Range.lean`): `parseRange` in closed form — the history is the
reversed concatenation of the expansions of the pieces that parse, for any string whatsoever, so that every entry is
a real combo with the weight of a token parsed from a piece of the text (`mem_parseRange`) — and `contents` is the
graph of `lookup` (distinct keys, drawn from the history).
-/
import EspadaVerif.Lemmas.TokenCascade
import EspadaVerif.Lemmas.Assoc

namespace EspadaVerif.RangeAux
open TextDefs TokenFacts

variable {W : Type}

/-- inserting a run of entries = pushing them, newest first, on the history -/
theorem foldl_insert_eq (es : List (Combo × W)) (m : HandRange W) :
    es.foldl (fun m e => HandRange.insert m e.1 e.2) m = es.reverse ++ m := by
  induction es generalizing m with
  | nil => rfl
  | cons e es ih =>
    rw [List.foldl_cons, ih]
    simp only [HandRange.insert, List.reverse_cons, List.append_assoc, List.singleton_append]

/-- what one comma-separated piece contributes: the expansion of its token, nothing if it is not a token -/
def pieceEntries (wt : WText W) (piece : Bytes) : List (Combo × W) :=
  match parseToken wt piece with
  | .ok tok => match tok.expand with
    | .ok es => es
    | _ => []
  | _ => []

theorem pieceEntries_ok (wt : WText W) {piece : Bytes} {tok : Token W} {es : List (Combo × W)}
    (h : parseToken wt piece = .ok tok) (he : tok.expand = .ok es) : pieceEntries wt piece = es := by
  simp only [pieceEntries, h, he]

theorem mem_pieceEntries (wt : WText W) {piece : Bytes} {e : Combo × W} (h : e ∈ pieceEntries wt piece) :
    ∃ tok es, parseToken wt piece = .ok tok ∧ tok.expand = .ok es ∧ e ∈ es := by
  unfold pieceEntries at h
  split at h
  · next tok htok =>
    split at h
    · next es hes => exact ⟨tok, es, htok, hes, h⟩
    · cases h
  · cases h

-- the names under which Lemmas/RoundtripRange calls the two lemmas above
/-- **the insert loop, explicitly**: it never panics (`parseToken_ok`: a piece is a well-formed token or skipped;
`expand_ok`: a well-formed token expands) -/
theorem parseRange_go_eq (wt : WText W) (pieces : List Bytes) (m : HandRange W) :
    parseRange.go wt pieces m = .ok ((pieces.flatMap (pieceEntries wt)).reverse ++ m) := by
  induction pieces generalizing m with
  | nil => rfl
  | cons h rest ih =>
    rcases parseToken_ok wt h with he | ⟨kind, sfx, hok, hk, _⟩
    · simp [parseRange.go, he, ih, pieceEntries]
    · obtain ⟨es, hes, _⟩ := expand_ok (⟨kind, sufW wt sfx⟩ : Token W) hk
      simp [parseRange.go, hok, hes, foldl_insert_eq, ih, pieceEntries_ok wt hok hes]

/-- **`HandRange::from_str` in closed form** (the empty text is one empty piece, which is no token) -/
theorem parseRange_eq (wt : WText W) (s : Bytes) :
    parseRange wt s = .ok ((splitCommas (stripSpaces s)).flatMap (pieceEntries wt)).reverse := by
  simp only [parseRange]
  split
  · next h => rw [List.eq_nil_of_length_eq_zero h]; rfl
  · rw [parseRange_go_eq, List.append_nil]

/-- **where an entry of a parsed range comes from**: one of the comma-separated pieces of the text parses to a token
whose weight the entry carries, and the entry is a real combo in canonical form (core of C10) -/
theorem mem_parseRange (wt : WText W) {s : Bytes} {r : HandRange W} (h : parseRange wt s = .ok r)
    {e : Combo × W} (he : e ∈ r) :
    ∃ piece ∈ splitCommas (stripSpaces s), ∃ tok,
      parseToken wt piece = .ok tok ∧ ComboOk e.1 ∧ e.2 = tok.prob := by
  rw [parseRange_eq] at h; cases h
  obtain ⟨piece, hp, hm⟩ := List.mem_flatMap.mp (List.mem_reverse.mp he)
  obtain ⟨tok, es, h1, h2, h3⟩ := mem_pieceEntries wt hm
  exact ⟨piece, hp, tok, h1, expand_parsed wt h1 h2 e h3⟩

theorem parseRange_comboOk (wt : WText W) (s : Bytes) (r : HandRange W) (h : parseRange wt s = .ok r) :
    ∀ e ∈ r, ComboOk e.1 := by
  intro e he
  obtain ⟨_, _, _, _, hc, _⟩ := mem_parseRange wt h he
  exact hc

theorem mem_contents_iff (r : HandRange W) (c : Combo) (w : W) :
    (c, w) ∈ HandRange.contents r ↔ r.lookup c = some w := by
  induction r using HandRange.contents.induct with
  | case1 => simp [HandRange.contents, HandRange.lookup]
  | case2 k v rest ih =>
    rw [HandRange.contents, List.mem_cons, ih, HandRange.lookup_remove, HandRange.lookup]
    by_cases hk : k = c
    · subst hk; simp [eq_comm]
    · have hk' : ¬ c = k := fun e => hk e.symm
      simp [hk, hk']

theorem mem_contents (r : HandRange W) : ∀ e ∈ HandRange.contents r, e ∈ r := fun e he =>
  HandRange.mem_of_lookup ((mem_contents_iff r e.1 e.2).mp he)

theorem contents_nodup (r : HandRange W) : ((HandRange.contents r).map (·.1)).Nodup := by
  induction r using HandRange.contents.induct with
  | case1 => simp [HandRange.contents]
  | case2 k v rest ih =>
    rw [HandRange.contents, List.map_cons, List.nodup_cons]
    refine ⟨fun hk => ?_, ih⟩
    obtain ⟨e, he, hek⟩ := List.mem_map.mp hk
    have := mem_contents _ e he
    simp only [HandRange.remove, List.mem_filter, decide_eq_true_eq] at this
    exact this.2 hek

/-- `contents` answers every lookup as the insert history does -/
theorem lookup_contents (r : HandRange W) (c : Combo) : HandRange.lookup (HandRange.contents r) c = r.lookup c := by
  apply Option.ext
  intro w
  rw [HandRange.lookup_eq, Assoc.lookup_eq_some_iff (contents_nodup r), mem_contents_iff]

end EspadaVerif.RangeAux
