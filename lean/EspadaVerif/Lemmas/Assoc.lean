/-
Lemmas/Assoc: the three finite maps of the range development (`HandRange.lookup`, `rpLookup`, `Spec.cLookup`) are all
core's `List.lookup` on an association list (`…_eq`).  The facts about first-match lookup, and about tables with one
optional entry per key of a list, are proved for `List.lookup`; below them stand their instances at the three maps.
-/
import EspadaVerif.Model.Range
import EspadaVerif.Spec.RangeViews

namespace EspadaVerif.Assoc

/-! ### a table with one optional entry per key of a list (`rank_pairs()`, `Spec.rankPairView`) -/

theorem mem_filterMap_key {α β : Type} {keys : List α} {f : α → Option β} {k : α} {v : β} :
    (k, v) ∈ keys.filterMap (fun k => (f k).map fun v => (k, v)) ↔ k ∈ keys ∧ f k = some v := by
  simp only [List.mem_filterMap, Option.map_eq_some_iff, Prod.mk.injEq]
  exact ⟨fun ⟨_, ha, _, hf, rfl, rfl⟩ => ⟨ha, hf⟩, fun ⟨ha, hf⟩ => ⟨k, ha, v, hf, rfl, rfl⟩⟩

theorem map_fst_filterMap_key {α β : Type} (keys : List α) (f : α → Option β) :
    (keys.filterMap fun k => (f k).map fun v => (k, v)).map Prod.fst = keys.filter fun k => (f k).isSome := by
  induction keys with
  | nil => rfl
  | cons k keys ih => cases h : f k <;> simp [h, ih]

/- `List.lookup` compares by `==`; the three maps compare by `=` under an `if` (`lookup_cons` is the bridge): hence
both classes. -/
variable {α β γ : Type} [BEq α] [LawfulBEq α] [DecidableEq α]

theorem lookup_cons (k : α) (v : β) (l : List (α × β)) (a : α) :
    List.lookup a ((k, v) :: l) = if k = a then some v else List.lookup a l := by
  rw [List.lookup_cons]
  by_cases h : k = a
  · subst h; simp
  · have : (a == k) = false := by simpa using fun e => h e.symm
    rw [this, if_neg h]

omit [DecidableEq α] in
theorem mem_of_lookup {l : List (α × β)} {a : α} {b : β} (h : List.lookup a l = some b) : (a, b) ∈ l := by
  obtain ⟨l₁, l₂, rfl, _⟩ := List.lookup_eq_some_iff.mp h
  simp

omit [DecidableEq α] in
theorem lookup_eq_none_iff {l : List (α × β)} {a : α} : List.lookup a l = none ↔ ∀ b, (a, b) ∉ l := by
  rw [List.lookup_eq_none_iff]
  constructor
  · intro h b hm; simpa using h _ hm
  · intro h p hp; simp only [bne_iff_ne, ne_eq]; rintro rfl; exact h p.2 hp

theorem lookup_eq_some_iff {l : List (α × β)} (hnd : (l.map Prod.fst).Nodup) (a : α) (b : β) :
    List.lookup a l = some b ↔ (a, b) ∈ l := by
  refine ⟨mem_of_lookup, fun hm => ?_⟩
  induction l with
  | nil => cases hm
  | cons e l ih =>
    obtain ⟨k, v⟩ := e
    rw [List.map_cons, List.nodup_cons] at hnd
    rw [lookup_cons]
    rcases List.mem_cons.mp hm with e | hm
    · cases e; rw [if_pos rfl]
    · rw [if_neg (fun hk : k = a => hnd.1 (List.mem_map.mpr ⟨(a, b), hm, hk.symm⟩)), ih hnd.2 hm]

/-- deleting a key (`HashMap::remove` on the history; the oracle's overwrite) -/
theorem lookup_filter_ne (l : List (α × β)) (k a : α) (p : α × β → Bool) (hp : ∀ e, p e = true ↔ e.1 ≠ k) :
    List.lookup a (l.filter p) = if a = k then none else List.lookup a l := by
  induction l with
  | nil => simp
  | cons e l ih =>
    obtain ⟨k', v⟩ := e
    by_cases hk : k' = k
    · subst hk
      rw [List.filter_cons_of_neg (by simp [hp]), ih, lookup_cons]
      split
      · rfl
      · next h => rw [if_neg (fun e => h e.symm)]
    · rw [List.filter_cons_of_pos ((hp _).mpr hk), lookup_cons, lookup_cons, ih]
      by_cases h : k' = a
      · subst h; rw [if_pos rfl, if_pos rfl, if_neg hk]
      · rw [if_neg h, if_neg h]

theorem lookup_filterMap (keys : List α) (f : α → Option β) (a : α) :
    List.lookup a (keys.filterMap fun k => (f k).map fun v => (k, v)) = if a ∈ keys then f a else none := by
  induction keys with
  | nil => rfl
  | cons k keys ih =>
    rw [List.filterMap_cons]
    by_cases hk : k = a
    · subst hk
      cases h : f k <;> simp [h, ih]
    · have hm : a ∈ k :: keys ↔ a ∈ keys := by
        rw [List.mem_cons]; exact ⟨fun h => h.resolve_left fun e => hk e.symm, Or.inr⟩
      cases h : f k <;> simp only [Option.map_none, Option.map_some, lookup_cons, if_neg hk, ih, hm]

theorem lookup_map_key [BEq γ] [LawfulBEq γ] [DecidableEq γ] (g : α → γ) (l : List (α × β)) (a : α)
    (hinj : ∀ e ∈ l, g e.1 = g a → e.1 = a) :
    List.lookup (g a) (l.map fun e => (g e.1, e.2)) = List.lookup a l := by
  induction l with
  | nil => rfl
  | cons e l ih =>
    obtain ⟨k, v⟩ := e
    rw [List.map_cons, lookup_cons, lookup_cons, ih fun e he => hinj e (List.mem_cons_of_mem _ he)]
    by_cases hk : k = a
    · subst hk; rw [if_pos rfl, if_pos rfl]
    · rw [if_neg hk, if_neg fun e => hk (hinj (k, v) List.mem_cons_self e)]

end EspadaVerif.Assoc

namespace EspadaVerif
open Assoc

variable {W : Type}

theorem HandRange.lookup_eq (r : HandRange W) (c : Combo) : r.lookup c = List.lookup c r := by
  induction r with
  | nil => rfl
  | cons e r ih => obtain ⟨k, v⟩ := e; rw [HandRange.lookup, ih, lookup_cons]

theorem HandRange.lookup_append (a b : HandRange W) (c : Combo) :
    HandRange.lookup (a ++ b) c = (HandRange.lookup a c).or (HandRange.lookup b c) := by
  simp only [HandRange.lookup_eq, List.lookup_append]

theorem HandRange.mem_of_lookup {r : HandRange W} {c : Combo} {w : W} (h : r.lookup c = some w) : (c, w) ∈ r :=
  Assoc.mem_of_lookup (r.lookup_eq c ▸ h)

theorem HandRange.lookup_eq_none_iff {r : HandRange W} {c : Combo} : r.lookup c = none ↔ ∀ w, (c, w) ∉ r := by
  rw [HandRange.lookup_eq]; exact Assoc.lookup_eq_none_iff

/-- what `lookup` answers is an entry of the history that is current: for a hypothesis on the contents it suffices to
look at those -/
theorem HandRange.contents_hyp_of_current {P : Combo → W → Prop} (r : HandRange W)
    (h : ∀ e ∈ r, r.lookup e.1 = some e.2 → P e.1 e.2) : ∀ c w, r.lookup c = some w → P c w :=
  fun c w hl => h (c, w) (HandRange.mem_of_lookup hl) hl

/-- a hypothesis on the history implies the same hypothesis on the contents (not conversely: overwritten inserts) -/
theorem HandRange.contents_hyp_of_history {P : Combo → W → Prop} (r : HandRange W) (h : ∀ e ∈ r, P e.1 e.2) :
    ∀ c w, r.lookup c = some w → P c w :=
  r.contents_hyp_of_current fun e he _ => h e he

theorem HandRange.lookup_remove (m : HandRange W) (c c' : Combo) :
    (HandRange.remove m c).lookup c' = if c' = c then none else m.lookup c' := by
  rw [HandRange.lookup_eq, HandRange.lookup_eq]; exact lookup_filter_ne m c c' _ (by simp)

theorem rpLookup_eq (l : List (RankPair × W)) (rp : RankPair) : rpLookup l rp = List.lookup rp l := by
  induction l with
  | nil => rfl
  | cons e l ih => obtain ⟨k, v⟩ := e; rw [rpLookup, ih, lookup_cons]

theorem Spec.cLookup_eq (m : Spec.Contents W) (c : Nat × Nat) : Spec.cLookup m c = List.lookup c m := by
  induction m with
  | nil => rfl
  | cons e m ih =>
    obtain ⟨k, v⟩ := e
    rw [Spec.cLookup, ih, Assoc.lookup_cons]
    by_cases h : k = c <;> simp [h]

end EspadaVerif

namespace EspadaVerif.RankPairFacts
variable {W : Type}

theorem rpLookup_eq_none_iff {l : List (RankPair × W)} {k : RankPair} :
    rpLookup l k = none ↔ ∀ v, (k, v) ∉ l := by
  rw [rpLookup_eq]; exact Assoc.lookup_eq_none_iff

theorem rpLookup_eq_some_iff_of_nodup {l : List (RankPair × W)} (h : (l.map Prod.fst).Nodup)
    (k : RankPair) (v : W) : rpLookup l k = some v ↔ (k, v) ∈ l := by
  rw [rpLookup_eq]; exact Assoc.lookup_eq_some_iff h k v

end EspadaVerif.RankPairFacts

namespace EspadaVerif.Spec
variable {W : Type}

theorem cLookup_mem {m : Contents W} {c : Nat × Nat} {w : W} (h : cLookup m c = some w) : (c, w) ∈ m :=
  Assoc.mem_of_lookup (cLookup_eq m c ▸ h)

theorem cLookup_eq_none_iff {m : Contents W} {c : Nat × Nat} : cLookup m c = none ↔ ∀ w, (c, w) ∉ m := by
  rw [cLookup_eq]; exact Assoc.lookup_eq_none_iff

theorem cLookup_eq_some_iff {m : Contents W} (hnd : (m.map Prod.fst).Nodup) (c : Nat × Nat) (w : W) :
    cLookup m c = some w ↔ (c, w) ∈ m := by
  rw [cLookup_eq]; exact Assoc.lookup_eq_some_iff hnd c w

end EspadaVerif.Spec
