/-
Lemmas/Decide: `ValidScope`, `WfInput`, `ComboOk`, canonical rank pairs and `SuffixOk` are decidable, so that a hypothesis
at concrete data is discharged by `decide` (further instances stand beside `C01.Seven`, `C03.WfTable`, `C08.WfInputLe`).
-/
import EspadaVerif.Lemmas.IterDefs
import EspadaVerif.Lemmas.TextDefs

namespace EspadaVerif
open Spec

instance C02.ValidScope.instDecidable (a b : Nat × Nat) : Decidable (C02.ValidScope a b) :=
  decidable_of_iff (C02.validPos a = true ∧ C02.validPos b = true ∧ posLe a b = true)
    ⟨fun ⟨h₁, h₂, h₃⟩ => ⟨h₁, h₂, h₃⟩, fun ⟨h₁, h₂, h₃⟩ => ⟨h₁, h₂, h₃⟩⟩

instance C02.WfInput.instDecidable {W : Type} (flop : List Card) (ranges : List (List (Combo × W))) :
    Decidable (C02.WfInput flop ranges) :=
  decidable_of_iff (flop.length = 3 ∧ flop.Nodup ∧ (∀ c ∈ flop, c.valid = true)
      ∧ (∀ es ∈ ranges, ∀ e ∈ es, e.1.fst.valid = true ∧ e.1.snd.valid = true ∧ Card.lt e.1.fst e.1.snd = true)
      ∧ ∀ es ∈ ranges, (es.map (·.1)).Nodup)
    ⟨fun ⟨h₁, h₂, h₃, h₄, h₅⟩ => ⟨h₁, h₂, h₃, h₄, h₅⟩, fun ⟨h₁, h₂, h₃, h₄, h₅⟩ => ⟨h₁, h₂, h₃, h₄, h₅⟩⟩

instance TextDefs.ComboOk.instDecidable : DecidablePred TextDefs.ComboOk := fun c =>
  inferInstanceAs (Decidable (c.fst.valid = true ∧ c.snd.valid = true ∧ Card.lt c.fst c.snd = true))

instance TextDefs.RankPair.canonical.instDecidable : DecidablePred TextDefs.RankPair.canonical
  | .pocket r => inferInstanceAs (Decidable (r < 13))
  | .suited h k => inferInstanceAs (Decidable (h < k ∧ k < 13))
  | .ofsuit h k => inferInstanceAs (Decidable (h < k ∧ k < 13))

instance TextDefs.SuffixOk.instDecidable : DecidablePred TextDefs.SuffixOk
  | [] => isTrue (.inl rfl)
  | c :: w => decidable_of_iff (c = 58 ∧ isWeightText w = true)
      ⟨fun ⟨hc, hw⟩ => .inr ⟨w, hc ▸ rfl, hw⟩, fun
        | .inl h => nomatch h
        | .inr ⟨_, h, hw⟩ => by cases h; exact ⟨rfl, hw⟩⟩

end EspadaVerif
