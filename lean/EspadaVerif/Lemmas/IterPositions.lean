/-
Lemmas/IterPositions: the positions `(turn index, river index)` of `Spec.allPositions` in lexicographic
order.  `allPositions` is sorted, so an interval `positionsBetween a b` is the one sorted list with its members
(`eq_positionsBetween`): the intervals of consecutive scopes concatenate (`positionsBetween_append`, no validity
needed); the river / turn step of the iterator (`nextPos`) is the successor, so an interval unfolds at its first
element (`positionsBetween_step`).  `Spec.deals` is a `flatMap` over such an interval of the per-position blocks
`dealsAt` (`deals_eq_blocks`), so what holds of intervals holds of enumerations.
-/
import EspadaVerif.Spec.Deals
import EspadaVerif.Lemmas.ListBasics

namespace EspadaVerif.C02

/-- `(t, r)` is a position (turn index < river index < 49) or the terminal `(48, 49)`: the default
`turn_to`, `river_to` of `new()` (`flop_exhaustive.rs` 23-24), an end of scope at which no deck card is read -/
def validPos (p : Nat × Nat) : Bool := (decide (p.1 < p.2) && decide (p.2 < 49)) || p == (48, 49)

end EspadaVerif.C02

namespace EspadaVerif.IterLemmas
open Spec EspadaVerif.C02

/-- the river / turn step of `advance` (`flop_exhaustive.rs` 193-204): the next river while `river < 48`, else
the next turn with the river right after it -/
def nextPos (p : Nat × Nat) : Nat × Nat :=
  if p.2 < 48 then (p.1, p.2 + 1) else (p.1 + 1, p.1 + 1 + 1)

/-! ### the order, as arithmetic: every fact about `posLt` / `posLe` / `validPos` is `omega` after these three -/

theorem posLt_iff (p q : Nat × Nat) : posLt p q = true ↔ p.1 < q.1 ∨ (p.1 = q.1 ∧ p.2 < q.2) := by
  simp [posLt]

theorem posLe_iff (p q : Nat × Nat) : posLe p q = true ↔ p.1 < q.1 ∨ (p.1 = q.1 ∧ p.2 ≤ q.2) := by
  simp only [posLe, Bool.or_eq_true, posLt_iff, beq_iff_eq, Prod.ext_iff]
  omega

theorem validPos_iff (p : Nat × Nat) : validPos p = true ↔ (p.1 < p.2 ∧ p.2 < 49) ∨ p = (48, 49) := by
  simp [validPos]

theorem validPos_bounds {p : Nat × Nat} (h : validPos p = true) : p.1 ≤ 48 ∧ p.2 ≤ 49 ∧ p.1 < p.2 := by
  rw [validPos_iff, Prod.ext_iff] at h
  omega

theorem validPos_range {p : Nat × Nat} (h : validPos p = true) : posLe (0, 1) p = true ∧ posLe p (48, 49) = true := by
  simp only [validPos_iff, posLe_iff, Prod.ext_iff] at *
  omega

theorem posLt_asymm (p q : Nat × Nat) (h : posLt p q = true) : ¬ posLt q p = true := by
  rw [posLt_iff] at *
  omega

theorem posLe_refl (a : Nat × Nat) : posLe a a = true := by
  simp [posLe]

theorem posLe_iff_lt_or_eq (p q : Nat × Nat) : posLe p q = true ↔ posLt p q = true ∨ p = q := by
  simp [posLe]

theorem posLe_trans {a b c : Nat × Nat} (h1 : posLe a b = true) (h2 : posLe b c = true) :
    posLe a c = true := by
  rw [posLe_iff] at *
  omega

theorem pos_eq_of_not_lt {p q : Nat × Nat} (h1 : posLt p q = false) (h2 : posLt q p = false) : p = q := by
  rw [Bool.eq_false_iff, Ne, posLt_iff] at h1 h2
  exact Prod.ext (by omega) (by omega)

theorem mem_allPositions (q : Nat × Nat) : q ∈ allPositions ↔ q.1 < q.2 ∧ q.2 < 49 := by
  obtain ⟨t, r⟩ := q
  simp only [allPositions, List.mem_flatMap, List.mem_range, List.mem_map, List.mem_range'_1,
    Prod.mk.injEq]
  constructor
  · rintro ⟨t', ht', r', hr', rfl, rfl⟩
    omega
  · rintro ⟨h1, h2⟩
    exact ⟨t, by omega, r, by omega, rfl, rfl⟩

theorem allPositions_sorted : allPositions.Pairwise (fun p q => posLt p q = true) := by
  unfold allPositions
  rw [List.pairwise_flatMap]
  constructor
  · intro t _
    rw [List.pairwise_map]
    refine List.Pairwise.imp ?_ (List.pairwise_lt_range' (s := t + 1) (n := 48 - t))
    intro x y hxy
    exact (posLt_iff _ _).mpr (.inr ⟨rfl, hxy⟩)
  · refine List.Pairwise.imp ?_ (List.pairwise_lt_range (n := 48))
    intro t1 t2 ht x hx y hy
    simp only [List.mem_map] at hx hy
    obtain ⟨_, _, rfl⟩ := hx
    obtain ⟨_, _, rfl⟩ := hy
    exact (posLt_iff _ _).mpr (.inl ht)

theorem allPositions_nodup : allPositions.Nodup :=
  Lemmas.nodup_of_sorted (fun p h => posLt_asymm p p h h) allPositions_sorted

/-- 1176 = C(49, 2): the pairs `t < r` of indices into the 49-card deck -/
theorem allPositions_length : allPositions.length = 1176 := by decide +kernel

theorem mem_positionsBetween_iff (a b p : Nat × Nat) :
    p ∈ positionsBetween a b ↔ (p.1 < p.2 ∧ p.2 < 49) ∧ posLe a p = true ∧ posLt p b = true := by
  unfold positionsBetween
  rw [List.mem_filter, mem_allPositions, Bool.and_eq_true]

theorem mem_positionsBetween {a b q : Nat × Nat} (h : q ∈ positionsBetween a b) : q.1 < q.2 ∧ q.2 < 49 :=
  ((mem_positionsBetween_iff a b q).mp h).1

theorem positionsBetween_length_le (a b : Nat × Nat) : (positionsBetween a b).length ≤ 1176 :=
  allPositions_length ▸ List.length_filter_le _ allPositions

theorem positionsBetween_sorted (a b : Nat × Nat) : (positionsBetween a b).Pairwise (fun p q => posLt p q = true) :=
  allPositions_sorted.filter _

/-- the interval `[a, b)` is the one sorted list with its members -/
theorem eq_positionsBetween {l : List (Nat × Nat)} {a b : Nat × Nat} (hs : l.Pairwise (fun p q => posLt p q = true))
    (hm : ∀ p, p ∈ l ↔ (p.1 < p.2 ∧ p.2 < 49) ∧ posLe a p = true ∧ posLt p b = true) : l = positionsBetween a b :=
  Lemmas.eq_of_sorted_of_mem_iff posLt_asymm hs (positionsBetween_sorted a b) fun p =>
    (hm p).trans (mem_positionsBetween_iff a b p).symm

/-- **the positions of consecutive scopes concatenate** (for any `a ≤ b ≤ c`, valid or not) -/
theorem positionsBetween_append {a b c : Nat × Nat} (hab : posLe a b = true) (hbc : posLe b c = true) :
    positionsBetween a b ++ positionsBetween b c = positionsBetween a c := by
  rw [posLe_iff] at hab hbc
  refine eq_positionsBetween (List.pairwise_append.mpr
    ⟨positionsBetween_sorted a b, positionsBetween_sorted b c, fun p hp q hq => ?_⟩) fun p => ?_
  · rw [mem_positionsBetween_iff, posLe_iff, posLt_iff] at hp hq
    rw [posLt_iff]
    omega
  · simp only [List.mem_append, mem_positionsBetween_iff, posLe_iff, posLt_iff]
    omega

theorem positionsBetween_self (b : Nat × Nat) : positionsBetween b b = [] :=
  (eq_positionsBetween .nil fun p => by
    simp only [List.not_mem_nil, false_iff, posLe_iff, posLt_iff]
    omega).symm

theorem positionsBetween_full : positionsBetween (0, 1) (48, 49) = allPositions :=
  (eq_positionsBetween allPositions_sorted fun p => by
    simp only [mem_allPositions, posLe_iff, posLt_iff]
    omega).symm

/-- among positions, `nextPos p` is the immediate successor of `p`: nothing but `p` lies in `[p, nextPos p)` -/
theorem positionsBetween_next {p : Nat × Nat} (hp : p.1 < p.2 ∧ p.2 < 49) :
    positionsBetween p (nextPos p) = [p] :=
  (eq_positionsBetween (List.pairwise_singleton _ _) fun q => by
    simp only [List.mem_singleton, Prod.ext_iff, posLe_iff, posLt_iff, nextPos]
    split <;> simp only <;> omega).symm

theorem nextPos_valid {p b : Nat × Nat} (hp : validPos p = true) (hb : validPos b = true)
    (hlt : posLt p b = true) :
    (p.1 < p.2 ∧ p.2 < 49) ∧ validPos (nextPos p) = true ∧ posLe (nextPos p) b = true := by
  simp only [validPos_iff, posLt_iff, posLe_iff, Prod.ext_iff, nextPos] at *
  split <;> simp only <;> omega

theorem positionsBetween_step {p b : Nat × Nat} (hp : p.1 < p.2 ∧ p.2 < 49) (hle : posLe (nextPos p) b = true) :
    positionsBetween p b = p :: positionsBetween (nextPos p) b := by
  rw [← positionsBetween_append (b := nextPos p) _ hle, positionsBetween_next hp]
  · rfl
  · rw [posLe_iff]
    unfold nextPos
    split <;> dsimp only <;> omega

/-- the legal deals at one position (the block of `deals` for that position) -/
def dealsAt {W : Type} (F : List Nat) (E : List (List (Nat × Nat × W))) (p : Nat × Nat) : List (Deal W) :=
  ((product E).map fun ch =>
      ({ turn := (deck49 F).getD p.1 0, river := (deck49 F).getD p.2 0, choice := ch } : Deal W)).filter
    (Deal.legal F)

theorem mem_dealsAt {W : Type} {F : List Nat} {E : List (List (Nat × Nat × W))} {p : Nat × Nat} {d : Deal W} :
    d ∈ dealsAt F E p ↔ d.turn = (deck49 F).getD p.1 0 ∧ d.river = (deck49 F).getD p.2 0
      ∧ d.choice ∈ product E ∧ Deal.legal F d = true := by
  unfold dealsAt
  rw [List.mem_filter, List.mem_map]
  constructor
  · rintro ⟨⟨ch, hch, rfl⟩, hl⟩
    exact ⟨rfl, rfl, hch, hl⟩
  · rintro ⟨h1, h2, h3, h4⟩
    refine ⟨⟨d.choice, h3, ?_⟩, h4⟩
    cases d
    simp_all

theorem deals_eq_blocks {W : Type} (F : List Nat) (E : List (List (Nat × Nat × W))) (a b : Nat × Nat) :
    deals F E a b = (positionsBetween a b).flatMap (dealsAt F E) := rfl

theorem legal_of_mem_deals {W : Type} {F : List Nat} {E : List (List (Nat × Nat × W))} {a b : Nat × Nat}
    {d : Deal W} (h : d ∈ deals F E a b) : Deal.legal F d = true :=
  let ⟨_, _, hd⟩ := List.mem_flatMap.mp (deals_eq_blocks F E a b ▸ h)
  (mem_dealsAt.mp hd).2.2.2

/-! ### small scopes, without filtering the 1176 positions -/

theorem positions_last1 : positionsBetween (47, 48) (48, 49) = [(47, 48)] :=
  positionsBetween_next (p := (47, 48)) (by decide)

theorem positions_last2 : positionsBetween (46, 48) (48, 49) = [(46, 48), (47, 48)] := by
  rw [positionsBetween_step (p := (46, 48)) (by decide) (by decide)]
  exact congrArg _ positions_last1

theorem positions_last3 : positionsBetween (46, 47) (48, 49) = [(46, 47), (46, 48), (47, 48)] := by
  rw [positionsBetween_step (p := (46, 47)) (by decide) (by decide)]
  exact congrArg _ positions_last2

/-- `deals` over a scope whose positions are known: evaluation then starts from `ps`, not from `allPositions` -/
theorem deals_of_positions {W : Type} {a b : Nat × Nat} {ps : List (Nat × Nat)} (h : positionsBetween a b = ps)
    (F : List Nat) (E : List (List (Nat × Nat × W))) : deals F E a b = ps.flatMap (dealsAt F E) :=
  h ▸ rfl

end EspadaVerif.IterLemmas
