/-
Lemmas/EvalModel: facts about the executable model of the evaluator (Model/Eval.lean) needed by C01:
a table lookup that returns was in range, the flush scan finds "the" suit with five cards whatever the
order, the two hashes only depend on rank multisets, hence `eval7` is invariant under permutation of its
(at most nine) cards.
-/
import EspadaVerif.Kernel.CheckerFacts
import EspadaVerif.Lemmas.CardFacts

namespace EspadaVerif.Lemmas
open Kernel

private theorem thr : Gen.flushThreshold = 5 := by decide

/-- a successful `AS_RAINBOW[h]` was in range -/
theorem asRainbow_ok_lt {h i : Nat} (e : asRainbow h = .ok i) : h < 49205 :=
  Decidable.byContradiction fun hn => by simp [asRainbow, Gen.asRainbowLen, hn] at e

/-- a successful `AS_FLUSH[h]` was in range -/
theorem asFlush_ok_lt {h i : Nat} (e : asFlush h = .ok i) : h < 8192 :=
  Decidable.byContradiction fun hn => by simp [asFlush, Gen.asFlushLen, hn] at e

/-- `dp_ref` returns only for `len` 1…4 and a real rank -/
theorem dpRef_ok_dom (len r rem v : Nat) (e : dpRef len r rem = .ok v) :
    len ∈ [1, 2, 3, 4] ∧ r < 13 := by
  unfold dpRef at e
  split at e
  · exact nomatch e
  · rename_i li hli
    refine ⟨(List.isSome_idxOf? (l := Gen.dpRefLens)).mp (by rw [hli]; rfl),
      Decidable.byContradiction fun hr => ?_⟩
    -- every arm has 13 rank rows; past them `getD` reads the default `[]`, which has no entry
    have : (Gen.dpRefRows.getD li []).length ≤ 13 :=
      getD_ind (P := (List.length · ≤ 13)) (by decide) (by decide) li
    rw [List.getD_eq_getElem?_getD (l := Gen.dpRefRows.getD li []),
      List.getElem?_eq_none (Nat.le_trans this (Nat.le_of_not_lt hr))] at e
    exact nomatch e

/-- the scan from its counters on: `tot s` is what the counter of suit `s` would reach at the end of the cards.  The
scan returns at the first counter to reach 5 (`find_flush_suit`), so while it runs every counter is below 5. -/
private theorem ffs_aux (rest : List Card) (hv : ∀ c ∈ rest, c.valid = true) :
    ∀ (counts : List Nat) (tot : Nat → Nat), counts.length = 4 → (∀ i, counts.getD i 0 < 5) →
    (∀ s, tot s = counts.getD s 0 + rest.countP (fun c => c.suit == s)) →
    (∃ s, s < 4 ∧ 5 ≤ tot s ∧ ffsLoop counts rest = .ok (some s))
    ∨ ((∀ s, tot s < 5) ∧ ffsLoop counts rest = .ok none) := by
  induction rest with
  | nil => exact fun counts tot _ hc ht => .inr ⟨fun s => by simpa [ht] using hc s, rfl⟩
  | cons x rest ih =>
    intro counts tot hl hc ht
    have hx := (Card.valid_iff x).mp (hv x (by simp))
    have hget := getElem?_eq_some_getD (show x.suit < counts.length by omega) 0
    simp only [List.countP_cons, beq_iff_eq] at ht
    simp only [ffsLoop, suitU8_of_lt hx.2, thr, hget]
    split
    · have := ht x.suit
      exact .inl ⟨_, hx.2, by simp only [if_true] at this; omega, rfl⟩
    · have hstep := fun s => getD_set_succ counts x.suit s (by omega)
      refine ih (fun c hc => hv c (List.mem_cons_of_mem _ hc)) _ tot (by simpa using hl) (fun i => ?_) fun s => ?_
      · have := hc i
        rw [hstep]
        split
        · subst_vars; omega
        · omega
      · rw [ht, hstep]
        omega

theorem findFlushSuit_spec (cs : List Card) (hv : ∀ c ∈ cs, c.valid = true) :
    (∃ s, s < 4 ∧ 5 ≤ cs.countP (fun c => c.suit == s) ∧ findFlushSuit cs = .ok (some s))
    ∨ ((∀ s, cs.countP (fun c => c.suit == s) < 5) ∧ findFlushSuit cs = .ok none) := by
  have h0 : ∀ s, [0, 0, 0, 0].getD s 0 = 0 := getD_ind (P := (· = 0)) rfl (by decide)
  exact ffs_aux cs hv [0, 0, 0, 0] _ rfl (fun i => by rw [h0]; decide) fun s => by rw [h0, Nat.zero_add]

theorem hashFlush_eq (cs : List Card) (s : Nat) :
    hashFlush cs s = flushHash ((cs.filter (fun c => c.suit == s)).map (·.rank)) := by
  simpa [hashFlush, flushHash, Function.comp_def] using
    foldl_add_filter (fun c => c.suit == s) (fun c => Gen.flushWeightTbl.getD c.rank 0) cs 0

theorem flushHash_perm {rs₁ rs₂ : List Nat} (h : rs₁.Perm rs₂) : flushHash rs₁ = flushHash rs₂ :=
  (h.map _).sum_nat

theorem hashRanks_perm {rs₁ rs₂ : List Nat} (h : rs₁.Perm rs₂) (hv : ∀ r ∈ rs₁, r < 13) :
    hashRanks rs₁ = hashRanks rs₂ := by
  rw [hashRanks_eq hv, hashRanks_eq fun r hr => hv r (h.mem_iff.mpr hr), h.length_eq]
  simp only [h.count_eq]

/-- with at most nine cards only one suit can occur five times (2 · 5 > 9; the crate passes seven) -/
theorem flush_suit_unique {cs : List Card} (hlen : cs.length ≤ 9) {s t : Nat}
    (hs : 5 ≤ cs.countP (fun c => c.suit == s)) (ht : 5 ≤ cs.countP (fun c => c.suit == t)) : s = t := by
  apply Decidable.byContradiction
  intro hne
  -- the cards of suit `t` are among those not of suit `s`
  have h1 := List.length_eq_countP_add_countP (fun c : Card => c.suit == s) (l := cs)
  have h2 : cs.countP (fun c => c.suit == t) ≤ cs.countP (fun c => decide ¬(c.suit == s) = true) :=
    List.countP_mono_left fun c _ h => by simp at *; omega
  omega

/-- so the scan finds the same suit, or none, in whatever order the cards come -/
theorem findFlushSuit_perm {cs₁ cs₂ : List Card} (h : cs₁.Perm cs₂) (hv : ∀ c ∈ cs₁, c.valid = true)
    (hlen : cs₁.length ≤ 9) : findFlushSuit cs₁ = findFlushSuit cs₂ := by
  have hcnt : ∀ s, cs₂.countP (fun c => c.suit == s) = cs₁.countP (fun c => c.suit == s) :=
    fun s => (h.countP_eq _).symm
  rcases findFlushSuit_spec cs₁ hv with ⟨s, _, h5, he⟩ | ⟨hall, he⟩ <;>
    rcases findFlushSuit_spec cs₂ fun c hc => hv c (h.mem_iff.mpr hc) with ⟨t, _, h5', he'⟩ | ⟨hall', he'⟩
  · rw [he, he', flush_suit_unique hlen h5 (hcnt t ▸ h5')]
  · have := hcnt s ▸ hall' s
    omega
  · have := hcnt t ▸ h5'
    have := hall t
    omega
  · rw [he, he']

/-- the evaluation does not depend on the order in which the (at most nine) cards are presented -/
theorem eval7_perm {cs₁ cs₂ : List Card} (h : cs₁.Perm cs₂) (hv : ∀ c ∈ cs₁, c.valid = true)
    (hlen : cs₁.length ≤ 9) : eval7 cs₁ = eval7 cs₂ := by
  unfold eval7
  rw [← findFlushSuit_perm h hv hlen]
  rcases findFlushSuit cs₁ with (_ | s) | _ | _
  · simp only [hashRainbow, hashRanks_perm (h.map _) (rank_lt_of_valid hv)]
  · simp only [hashFlush_eq, flushHash_perm ((h.filter _).map _)]
  · rfl
  · rfl

end EspadaVerif.Lemmas
