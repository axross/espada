/-
Lemmas/CardFacts: what the proofs about the evaluator, the iterator and the notation all need of `Model/Card.lean`:
validity as bounds on rank and suit, the code of a card (`Card.code` / `Card.ofCode`), distinctness under codes
(of cards, of lists of cards, of pairs), how many different valid cards there can be.
-/
import EspadaVerif.Model.Pair
import EspadaVerif.Lemmas.ListBasics

namespace EspadaVerif

/-- the wire codes of ranks and suits are their declaration indexes -/
theorem rankU8_of_lt {r : Nat} (h : r < 13) : rankU8 r = r :=
  (by decide : ∀ r < 13, rankU8 r = r) r h

theorem suitU8_of_lt {s : Nat} (h : s < 4) : suitU8 s = s :=
  (by decide : ∀ s < 4, suitU8 s = s) s h

theorem Card.valid_iff (c : Card) : c.valid = true ↔ c.rank < 13 ∧ c.suit < 4 := by
  simp [Card.valid]

theorem rank_lt_of_valid {cs : List Card} (hv : ∀ c ∈ cs, c.valid = true) : ∀ r ∈ cs.map (·.rank), r < 13 := by
  intro r hr
  obtain ⟨c, hc, rfl⟩ := List.mem_map.mp hr
  exact ((Card.valid_iff c).mp (hv c hc)).1

theorem Card.lt_iff (a b : Card) : Card.lt a b = true ↔ a.rank < b.rank ∨ a.rank = b.rank ∧ a.suit < b.suit := by
  simp [Card.lt]

theorem Card.eq_of {a b : Card} (hr : a.rank = b.rank) (hs : a.suit = b.suit) : a = b := by
  cases a; cases b; simp_all

theorem Card.code_ofCode (n : Nat) : (Card.ofCode n).code = n := by
  simp only [Card.ofCode, Card.code]; omega

theorem Card.ofCode_code (c : Card) (h : c.valid = true) : Card.ofCode c.code = c := by
  have := (Card.valid_iff c).mp h
  exact Card.eq_of (by simp only [Card.ofCode, Card.code]; omega) (by simp only [Card.ofCode, Card.code]; omega)

theorem Card.valid_ofCode (n : Nat) (h : n < 52) : (Card.ofCode n).valid = true :=
  (Card.valid_iff _).mpr ⟨by simp only [Card.ofCode]; omega, Nat.mod_lt n (by decide)⟩

theorem Card.code_lt (c : Card) (h : c.valid = true) : c.code < 52 := by
  have := (Card.valid_iff c).mp h
  simp only [Card.code]
  omega

theorem Card.code_inj {a b : Card} (ha : a.valid = true) (hb : b.valid = true) (h : a.code = b.code) : a = b := by
  rw [← Card.ofCode_code a ha, ← Card.ofCode_code b hb, h]

/-- a pair of valid cards is determined by the codes of its two cards -/
theorem Combo.eq_of_codes {c c' : Combo} (h₁ : c.fst.valid = true) (h₂ : c.snd.valid = true)
    (h₁' : c'.fst.valid = true) (h₂' : c'.snd.valid = true)
    (h : (c.fst.code, c.snd.code) = (c'.fst.code, c'.snd.code)) : c = c' := by
  obtain ⟨a, b⟩ := c
  obtain ⟨a', b'⟩ := c'
  exact congr (congrArg Combo.mk (Card.code_inj h₁ h₁' (Prod.mk.inj h).1)) (Card.code_inj h₂ h₂' (Prod.mk.inj h).2)

theorem Card.lt_ne {a b : Card} (h : Card.lt a b = true) : a ≠ b := by
  rintro rfl
  have := (Card.lt_iff a a).mp h
  omega

theorem Card.lt_asymm {a b : Card} (h : Card.lt a b = true) : Card.lt b a = false := by
  have := (Card.lt_iff a b).mp h
  rw [← Bool.not_eq_true, Card.lt_iff]
  omega

theorem Card.lt_total {a b : Card} (h : a ≠ b) : Card.lt a b = true ∨ Card.lt b a = true := by
  have : ¬ (a.rank = b.rank ∧ a.suit = b.suit) := fun ⟨hr, hs⟩ => h (Card.eq_of hr hs)
  rw [Card.lt_iff, Card.lt_iff]
  omega

theorem Card.le_of_lt {a b : Card} (h : Card.lt a b = true) : Card.le a b = true := by
  rw [Card.le, h]
  rfl

theorem Card.nodup_map_code (l : List Card) (hv : ∀ c ∈ l, c.valid = true) : (l.map Card.code).Nodup ↔ l.Nodup :=
  Lemmas.nodup_map_iff fun _ ha _ hb e => Card.code_inj (hv _ ha) (hv _ hb) e

/-! ### how many different valid cards there can be -/

/-- different cards of one suit have different ranks -/
theorem nodup_rank_of_suit {l : List Card} {t : Nat} (hnd : l.Nodup) (ht : ∀ c ∈ l, c.suit = t) :
    (l.map (·.rank)).Nodup :=
  Lemmas.nodup_map_on (fun x hx y hy hr => Card.eq_of hr ((ht x hx).trans (ht y hy).symm)) hnd

theorem count_rank_le_four (cs : List Card) (hnd : cs.Nodup) (hv : ∀ c ∈ cs, c.valid = true) (r : Nat) :
    (cs.map (·.rank)).count r ≤ 4 := by
  -- the cards of rank `r` have different suits
  have hr : ∀ c ∈ cs.filter (fun c => c.rank == r), c.rank = r :=
    fun c hc => beq_iff_eq.mp (List.mem_filter.mp hc).2
  have hnd' : ((cs.filter (fun c => c.rank == r)).map (·.suit)).Nodup :=
    Lemmas.nodup_map_on (fun a ha b hb hs => Card.eq_of ((hr a ha).trans (hr b hb).symm) hs)
      (hnd.sublist List.filter_sublist)
  have := hnd'.length_le_of_subset (l₂ := List.range 4) fun s hs => by
    obtain ⟨c, hc, rfl⟩ := List.mem_map.mp hs
    exact List.mem_range.mpr ((Card.valid_iff c).mp (hv c (List.mem_filter.mp hc).1)).2
  rw [List.length_map] at this
  rw [List.count_eq_countP, List.countP_map, List.countP_eq_length_filter]
  exact this

theorem nodup_valid_length_le (l : List Card) (hnd : l.Nodup) (hv : ∀ c ∈ l, c.valid = true) : l.length ≤ 52 := by
  -- pigeonhole: the codes are different numbers below 52
  have h1 := ((Card.nodup_map_code l hv).mpr hnd).length_le_of_subset (l₂ := List.range 52) (by
    intro x hx
    obtain ⟨c, hc, rfl⟩ := List.mem_map.mp hx
    exact List.mem_range.mpr (Card.code_lt c (hv c hc)))
  simpa using h1

end EspadaVerif
