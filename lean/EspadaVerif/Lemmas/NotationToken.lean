/-
Lemmas/NotationToken: the token half of C05.  The text of a well-formed notation token (`Spec.WfToken`) parses; the
expansion of the parsed token lists, in order, exactly the combos the token denotes (`token_core`); what a
well-formed token denotes has no repetition.
-/
import EspadaVerif.Lemmas.TokenCascade

namespace EspadaVerif.NotationToken
open TextDefs TokenFacts

variable {W : Type}

theorem rl_eq (r : Nat) : Spec.rl r = rankChar r := rfl
theorem sl_eq (s : Nat) : Spec.sl s = suitChar s := rfl

theorem codes_mkPair (x s y t : Nat) (hs : s < 4) (ht : t < 4) :
    comboCodes (mkPair ⟨x, s⟩ ⟨y, t⟩) = Spec.mkCombo (4 * x + s) (4 * y + t) := by
  -- both put the lower card first, and the order of the cards is the order of their codes
  have hgt : Card.gt ⟨x, s⟩ ⟨y, t⟩ = true ↔ 4 * y + t < 4 * x + s := by
    simp only [Card.gt, Card.lt_iff]; omega
  simp only [C14.mkPair_eq, Spec.mkCombo, hgt]
  split <;> split <;> simp only [comboCodes, Card.code, Prod.mk.injEq] <;> omega

/-- This `rfl` and the next two are where the suit tables the specification writes out (`Spec.pocketCombos`,
`Spec.pairCombos`) are checked against the lists `Gen` takes from the source of `RankPair::into_iter`. -/
theorem pocketCombos_eq (r : Nat) :
    Spec.pocketCombos r = Gen.pocketSuits.map fun s => (4 * r + s.1, 4 * r + s.2) := rfl

theorem pairCombos_true (x y : Nat) :
    Spec.pairCombos x y true = Gen.suitedSuits.map fun s => Spec.mkCombo (4 * x + s.1) (4 * y + s.2) := rfl

theorem pairCombos_false (x y : Nat) :
    Spec.pairCombos x y false = Gen.ofsuitSuits.map fun s => Spec.mkCombo (4 * x + s.1) (4 * y + s.2) := rfl

/-! ### per rank pair: the crate's combos are the specification's, in the same order -/

theorem codes_map_mkPair (l : List (Nat × Nat)) (x y : Nat) (hl : ∀ s ∈ l, s.1 < 4 ∧ s.2 < 4) :
    (l.map fun s => mkPair ⟨x, s.1⟩ ⟨y, s.2⟩).map comboCodes
      = l.map fun s => Spec.mkCombo (4 * x + s.1) (4 * y + s.2) := by
  rw [List.map_map]
  exact List.map_congr_left fun s hs => codes_mkPair x s.1 y s.2 (hl s hs).1 (hl s hs).2

theorem codes_pocket (r : Nat) : (RankPair.pocket r).combos.map comboCodes = Spec.pocketCombos r := by
  rw [pocketCombos_eq, RankPair.combos,
    codes_map_mkPair _ r r fun s hs => by have := (mem_pocketSuits_iff s.1 s.2).mp hs; omega]
  refine List.map_congr_left fun s hs => ?_
  have := (mem_pocketSuits_iff s.1 s.2).mp hs
  rw [Spec.mkCombo, if_pos (by omega)]

theorem codes_suited (x y : Nat) : (RankPair.suited x y).combos.map comboCodes = Spec.pairCombos x y true :=
  codes_map_mkPair _ x y fun s hs => by have := (mem_suitedSuits_iff s.1 s.2).mp hs; omega

theorem codes_ofsuit (x y : Nat) : (RankPair.ofsuit x y).combos.map comboCodes = Spec.pairCombos x y false :=
  codes_map_mkPair _ x y fun s hs => by have := (mem_ofsuitSuits_iff s.1 s.2).mp hs; omega

theorem codes_soPair (x y : Nat) (s : Bool) :
    (soPair (Spec.so s) x y).combos.map comboCodes = Spec.pairCombos x y s := by
  cases s
  · exact codes_ofsuit x y
  · exact codes_suited x y

theorem pocketCombos_nodup (r : Nat) : (Spec.pocketCombos r).Nodup := by
  rw [pocketCombos_eq]
  refine Lemmas.nodup_map_on ?_ (by decide)
  intro a _ b _ h
  simp only [Prod.mk.injEq] at h
  exact Prod.ext (by omega) (by omega)

/-- suited or not, the specification's list is built over a repetition-free list of suit pairs -/
theorem pairCombos_suits (x y : Nat) (s : Bool) : ∃ l : List (Nat × Nat), l.Nodup ∧ (∀ a ∈ l, a.1 < 4 ∧ a.2 < 4)
    ∧ Spec.pairCombos x y s = l.map fun a => Spec.mkCombo (4 * x + a.1) (4 * y + a.2) := by
  cases s
  · exact ⟨Gen.ofsuitSuits, by decide, fun a ha => by have := (mem_ofsuitSuits_iff a.1 a.2).mp ha; omega, rfl⟩
  · exact ⟨Gen.suitedSuits, by decide, fun a ha => by have := (mem_suitedSuits_iff a.1 a.2).mp ha; omega, rfl⟩

theorem pairCombos_nodup (x y : Nat) (s : Bool) (hxy : x ≠ y) : (Spec.pairCombos x y s).Nodup := by
  obtain ⟨l, hnd, hl, e⟩ := pairCombos_suits x y s
  rw [e]
  refine Lemmas.nodup_map_on (fun a ha b hb h => ?_) hnd
  -- of two cards of different ranks, sorting does not hide which was which
  have := hl a ha
  have := hl b hb
  unfold Spec.mkCombo at h
  split at h <;> split at h <;> simp only [Prod.mk.injEq] at h <;> exact Prod.ext (by omega) (by omega)

theorem mem_pocketCombos {r : Nat} {p : Nat × Nat} (h : p ∈ Spec.pocketCombos r) : p.1 / 4 = r := by
  rw [pocketCombos_eq] at h
  obtain ⟨s, hs, rfl⟩ := List.mem_map.mp h
  have := (mem_pocketSuits_iff s.1 s.2).mp hs
  simp only
  omega

theorem mem_pairCombos {x k : Nat} {s : Bool} (hxk : x < k) {p : Nat × Nat} (h : p ∈ Spec.pairCombos x k s) :
    p.2 / 4 = k := by
  obtain ⟨l, -, hl, e⟩ := pairCombos_suits x k s
  rw [e] at h
  obtain ⟨a, ha, rfl⟩ := List.mem_map.mp h
  have := hl a ha
  rw [Spec.mkCombo, if_pos (by omega)]
  simp only
  omega

/-- blocks over a run of ranks, `key` telling the rank from any element of its block -/
theorem nodup_flatMap_range' {α : Type} (f : Nat → List α) (key : α → Nat) (a n : Nat)
    (hnd : ∀ k, a ≤ k → k < a + n → (f k).Nodup)
    (hkey : ∀ k, a ≤ k → k < a + n → ∀ p ∈ f k, key p = k) :
    ((List.range' a n).flatMap f).Nodup := by
  have m := fun k (hk : k ∈ List.range' a n) => List.mem_range'_1.mp hk
  exact Lemmas.nodup_flatMap List.nodup_range' (fun k hk => hnd k (m k hk).1 (m k hk).2)
    fun k hk k' hk' p hp hp' =>
      (hkey k (m k hk).1 (m k hk).2 p hp).symm.trans (hkey k' (m k' hk').1 (m k' hk').2 p hp')

theorem denote_nodup (t : Spec.WfToken) (ht : t.wf = true) : t.denote.Nodup := by
  cases t with
  | pocket r => exact pocketCombos_nodup r
  | pocketPlus r =>
    simp only [Spec.WfToken.denote, List.range_eq_range']
    exact nodup_flatMap_range' _ (fun p => p.1 / 4) 0 (r + 1) (fun k _ _ => pocketCombos_nodup k)
      (fun k _ _ p hp => mem_pocketCombos hp)
  | pocketSpan hi lo =>
    exact nodup_flatMap_range' _ (fun p => p.1 / 4) hi (lo + 1 - hi) (fun k _ _ => pocketCombos_nodup k)
      (fun k _ _ p hp => mem_pocketCombos hp)
  | pair x y s =>
    simp only [Spec.WfToken.wf, Bool.and_eq_true, decide_eq_true_eq, bne_iff_ne] at ht
    exact pairCombos_nodup x y s ht.2
  | pairPlus x y s =>
    exact nodup_flatMap_range' _ (fun p => p.2 / 4) (x + 1) (y - x)
      (fun k hk _ => pairCombos_nodup x k s (by omega))
      (fun k hk _ p hp => mem_pairCombos (by omega) hp)
  | pairSpan x y z s =>
    simp only [Spec.WfToken.wf, Bool.and_eq_true, decide_eq_true_eq] at ht
    exact nodup_flatMap_range' _ (fun p => p.2 / 4) y (z + 1 - y)
      (fun k hk _ => pairCombos_nodup x k s (by omega))
      (fun k hk _ p hp => mem_pairCombos (by omega) hp)
  | cards c₁ c₂ => exact List.pairwise_singleton _ _

theorem so_isSo (s : Bool) : isSoByte (Spec.so s) = true := by cases s <;> decide

section parse
variable (wt : WText W)

theorem parse_pair (x y : Nat) (hx : x < 13) (hy : y < 13) (hxy : x ≠ y) (s : Bool) (suffix : Bytes)
    (hs : SuffixOk suffix) :
    parseToken wt (rankChar x :: rankChar y :: Spec.so s :: suffix)
      = .ok ⟨.singleRank (soPair (Spec.so s) x y), sufW wt suffix⟩ :=
  parse_singleSo wt _ (so_isSo s) hxy hx hy ((isWeightSuffix_iff suffix).mpr hs)

end parse

theorem expandRun_map (a b : Nat) (mk : Nat → RankPair) (p : W) (hab : a ≤ b) (hb : b < 13) :
    expandRun a b mk p = .ok (((List.range' a (b + 1 - a)).flatMap fun r => (mk r).combos).map fun cp => (cp, p)) := by
  rw [expandRun_eq a b mk p hab hb, List.map_flatMap]

theorem codes_flatMap (l : List Nat) (mk : Nat → RankPair) (f : Nat → List (Nat × Nat))
    (h : ∀ r, (mk r).combos.map comboCodes = f r) :
    (l.flatMap fun r => (mk r).combos).map comboCodes = l.flatMap f := by
  rw [List.map_flatMap]
  exact Lemmas.flatMap_congr fun r _ => h r

/-- **core of C05 (token)**: the text of a well-formed token, with a weight suffix, is parsed to a token whose
expansion lists exactly — and in the same order — the combos the token denotes, all with the parsed weight -/
theorem token_core (wt : WText W) (t : Spec.WfToken) (ht : t.wf = true) (suffix : Bytes) (hs : SuffixOk suffix) :
    ∃ (kind : TokenKind) (cs : List Combo), parseToken wt (t.text ++ suffix) = .ok ⟨kind, sufW wt suffix⟩
      ∧ (∀ p : W, (⟨kind, p⟩ : Token W).expand = .ok (cs.map fun c => (c, p)))
      ∧ cs.map comboCodes = t.denote := by
  have hs' := (isWeightSuffix_iff suffix).mpr hs
  -- `t.text` is written with `Spec.rl` / `Spec.sl`, the `parse_…` lemmas with `rankChar` / `suitChar`: the terms below
  -- are accepted because the two unfold to the same tables (`rl_eq`, `sl_eq` are `rfl`)
  cases t with
  | pocket r =>
    simp only [Spec.WfToken.wf, decide_eq_true_eq] at ht
    exact ⟨_, _, parse_singlePocket wt ht hs', fun p => rfl, codes_pocket r⟩
  | pocketPlus r =>
    simp only [Spec.WfToken.wf, decide_eq_true_eq] at ht
    refine ⟨_, _, parse_bottomPocket wt ht hs',
      fun p => expandRun_map 0 r .pocket p (Nat.zero_le _) ht, ?_⟩
    rw [codes_flatMap _ _ Spec.pocketCombos codes_pocket]
    simp only [Spec.WfToken.denote, List.range_eq_range', Nat.sub_zero]
  | pocketSpan hi lo =>
    simp only [Spec.WfToken.wf, Bool.and_eq_true, decide_eq_true_eq] at ht
    refine ⟨_, _, parse_doublePocket wt ht.1 ht.2 hs',
      fun p => expandRun_map hi lo .pocket p ht.1 ht.2, ?_⟩
    rw [codes_flatMap _ _ Spec.pocketCombos codes_pocket]
    rfl
  | pair x y s =>
    simp only [Spec.WfToken.wf, Bool.and_eq_true, decide_eq_true_eq, bne_iff_ne] at ht
    exact ⟨_, _, parse_pair wt x y ht.1.1 ht.1.2 ht.2 s suffix hs, fun p => rfl, codes_soPair x y s⟩
  | pairPlus x y s =>
    simp only [Spec.WfToken.wf, Bool.and_eq_true, decide_eq_true_eq] at ht
    refine ⟨_, _, parse_bottomSo wt _ (so_isSo s) ht.1 ht.2 hs', fun p =>
      (expand_bottomClosed_soPair _ x y p (by omega)).trans (expandRun_map (x + 1) y _ p (by omega) ht.2), ?_⟩
    rw [codes_flatMap _ _ _ fun k => codes_soPair x k s, show y + 1 - (x + 1) = y - x by omega]
    rfl
  | pairSpan x y z s =>
    simp only [Spec.WfToken.wf, Bool.and_eq_true, decide_eq_true_eq] at ht
    refine ⟨_, _, parse_doubleSo wt _ (so_isSo s) ht.1.1 ht.1.2 ht.2 hs', fun p =>
      (expand_doubleClosed_soPair _ x y z p).trans (expandRun_map y z _ p (by omega) ht.2), ?_⟩
    rw [codes_flatMap _ _ _ fun k => codes_soPair x k s]
    rfl
  | cards c₁ c₂ =>
    simp only [Spec.WfToken.wf, Bool.and_eq_true, decide_eq_true_eq, bne_iff_ne] at ht
    obtain ⟨⟨h1, h2⟩, hne⟩ := ht
    refine ⟨_, [mkPair (Card.ofCode c₁) (Card.ofCode c₂)],
      parse_cards wt (Card.valid_ofCode c₁ h1) (Card.valid_ofCode c₂ h2)
        (fun e => hne (by rw [← Card.code_ofCode c₁, e, Card.code_ofCode])) hs', fun p => rfl, ?_⟩
    simp only [List.map_cons, List.map_nil, Spec.WfToken.denote, Card.ofCode,
      codes_mkPair (c₁ / 4) (c₁ % 4) (c₂ / 4) (c₂ % 4) (by omega) (by omega), Nat.div_add_mod]

end EspadaVerif.NotationToken
