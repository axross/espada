/-
Lemmas/IterDeck: the 49-card deck built by `into_iter` is the specification's `deck49` (as codes):
49 distinct valid cards, none of them on the flop.
-/
import EspadaVerif.Model.Iter
import EspadaVerif.Spec.Deals
import EspadaVerif.Props.C13
import EspadaVerif.Lemmas.CardFacts

namespace EspadaVerif.C02

/-- a proper flop as the specification sees it: three different card codes -/
structure WfSpecFlop (F : List Nat) : Prop where
  len : F.length = 3
  nodup : F.Nodup
  lt : ∀ c ∈ F, c < 52

end EspadaVerif.C02

namespace EspadaVerif.IterLemmas
open Spec EspadaVerif.C02

structure WfFlop (flop : List Card) : Prop where
  len : flop.length = 3
  nodup : flop.Nodup
  valid : ∀ c ∈ flop, c.valid = true

theorem WfFlop.spec {flop : List Card} (hf : WfFlop flop) : WfSpecFlop (flop.map Card.code) where
  len := by simpa using hf.len
  nodup := (Card.nodup_map_code flop hf.valid).mpr hf.nodup
  lt := by
    intro n hn
    obtain ⟨c, hc, rfl⟩ := List.mem_map.mp hn
    exact Card.code_lt c (hf.valid c hc)

theorem fullDeck_eq : fullDeck = .ok allCards := by
  simp only [fullDeck, C13.rank_range_all, C13.suit_range_all]
  decide

def deckOf (flop : List Card) : List Card := (deck49 (flop.map Card.code)).map Card.ofCode

/-- the deck `into_iter` builds: the cards different from every `Some` board card, in deck order -/
def boardDeck (board : List (Option Card)) : List Card :=
  allCards.filter fun c => board.all fun b => match b with
    | some x => x != c
    | none => true

/-- `into_iter` is a test of the deck's length and a record -/
theorem intoIter_def {W : Type} (e : Evaluator W) : e.intoIter =
    if (boardDeck e.board).length = Gen.deckSize then
      .ok { turnTo := e.turnTo, riverTo := e.riverTo, entries := e.ranges, deck := boardDeck e.board,
            board := e.board, t := e.turnFrom, r := e.riverFrom, idx := List.replicate e.ranges.length 0 }
    else .panic := by
  unfold Evaluator.intoIter
  rw [fullDeck_eq]
  rfl

theorem intoIter_ok {W : Type} {e : Evaluator W} {s₀ : IterState W} (h : e.intoIter = .ok s₀) :
    s₀ = { turnTo := e.turnTo, riverTo := e.riverTo, entries := e.ranges, deck := boardDeck e.board,
           board := e.board, t := e.turnFrom, r := e.riverFrom, idx := List.replicate e.ranges.length 0 }
      ∧ (boardDeck e.board).length = 49 := by
  rw [intoIter_def] at h
  split at h
  · next hlen => exact ⟨(Res.ok.inj h).symm, hlen⟩
  · cases h

theorem boardDeck_eq_deckOf (flop : List Card) (hv : ∀ c ∈ flop, c.valid = true) :
    boardDeck (flop.map some ++ [none, none]) = deckOf flop := by
  unfold deckOf deck49 boardDeck allCards
  rw [List.filter_map]
  congr 1
  apply List.filter_congr
  intro n _
  rw [Bool.eq_iff_iff]
  simp only [Function.comp, List.all_append, List.all_map, List.all_cons, List.all_nil, Bool.and_true,
    List.all_eq_true, bne_iff_ne, ne_eq, Bool.not_eq_true', List.contains_eq_mem, List.mem_map,
    decide_eq_false_iff_not, not_exists, not_and]
  constructor
  · intro h x hx e
    apply h x hx
    rw [← e, Card.ofCode_code x (hv x hx)]
  · intro h x hx e
    apply h x hx
    rw [e, Card.code_ofCode]

theorem deck49_nodup (codes : List Nat) : (deck49 codes).Nodup :=
  List.Nodup.sublist List.filter_sublist List.nodup_range

theorem deck49_sorted (F : List Nat) : (deck49 F).Pairwise (· < ·) :=
  List.Pairwise.filter _ List.pairwise_lt_range

theorem mem_deck49 (codes : List Nat) (n : Nat) : n ∈ deck49 codes ↔ n < 52 ∧ n ∉ codes := by
  simp [deck49]

/-- `range 52` splits into the three cards of the flop and the deck -/
theorem _root_.EspadaVerif.C02.WfSpecFlop.deck49_length {codes : List Nat} (hF : WfSpecFlop codes) :
    (deck49 codes).length = 49 := by
  have h1 := (List.filter_append_perm codes.contains (List.range 52)).length_eq
  have h2 : ((List.range 52).filter codes.contains).Perm codes :=
    (List.perm_ext_iff_of_nodup (List.nodup_range.sublist List.filter_sublist) hF.nodup).mpr fun n => by
      simpa using hF.lt n
  rw [List.length_append, h2.length_eq, hF.len, List.length_range] at h1
  unfold deck49
  omega

/-- reading the deck with `getD` (as `deals` does) at an index inside the deck -/
theorem _root_.EspadaVerif.C02.WfSpecFlop.getElem?_deck49 {F : List Nat} (hF : WfSpecFlop F) {i : Nat} (hi : i < 49) :
    (deck49 F)[i]? = some ((deck49 F).getD i 0) :=
  Lemmas.getElem?_eq_some_getD (hF.deck49_length ▸ hi) 0

theorem _root_.EspadaVerif.C02.WfSpecFlop.deck49_getD_inj {F : List Nat} (hF : WfSpecFlop F) {i j : Nat}
    (hi : i < 49) (hj : j < 49) (e : (deck49 F).getD i 0 = (deck49 F).getD j 0) : i = j :=
  (Lemmas.nodup_index_iff (deck49_nodup F) (hF.getElem?_deck49 hj) i).mp
    ((hF.getElem?_deck49 hi).trans (congrArg some e))

theorem deckOf_length {flop : List Card} (hf : WfFlop flop) : (deckOf flop).length = 49 := by
  rw [deckOf, List.length_map, hf.spec.deck49_length]

/-- the turn / river card at a position -/
def cardAt (flop : List Card) (i : Nat) : Card := Card.ofCode ((deck49 (flop.map Card.code)).getD i 0)

theorem getElem?_deck49_cardAt {flop : List Card} (hf : WfFlop flop) (i : Nat) (hi : i < 49) :
    (deck49 (flop.map Card.code))[i]? = some (cardAt flop i).code := by
  rw [cardAt, Card.code_ofCode]
  exact hf.spec.getElem?_deck49 hi

/-- the deck card at an index: what `into_iter`'s deck holds there, a valid card that is not on the flop -/
theorem cardAt_spec {flop : List Card} (hf : WfFlop flop) (i : Nat) (hi : i < 49) :
    idx (deckOf flop) i = .ok (cardAt flop i) ∧ (cardAt flop i).valid = true ∧ cardAt flop i ∉ flop := by
  have hc := getElem?_deck49_cardAt hf i hi
  have m := (mem_deck49 _ _).mp (List.mem_of_getElem? hc)
  refine ⟨?_, ?_, fun hm => m.2 (List.mem_map_of_mem hm)⟩
  · simp only [idx, deckOf, List.getElem?_map, hc, Option.map_some, cardAt, Card.code_ofCode]
  · exact Card.valid_ofCode _ (by simpa [cardAt, Card.code_ofCode] using m.1)

theorem cardAt_ne {flop : List Card} (hf : WfFlop flop) {i j : Nat} (hij : i < j) (hj : j < 49) :
    cardAt flop i ≠ cardAt flop j := by
  intro h
  have e := congrArg Card.code h
  simp only [cardAt, Card.code_ofCode] at e
  have := hf.spec.deck49_getD_inj (by omega) hj e
  omega

end EspadaVerif.IterLemmas
