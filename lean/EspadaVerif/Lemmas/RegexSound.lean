/-
Lemmas/RegexSound: the equivalence checker of `Model/Regex` is sound (`equivCheck_sound`).  The normalising constructors
keep the language, so `nderiv` is a derivative.  `nderiv` mentions only bytes the expression already mentions, and two
bytes mentioned nowhere in `r` give the same `nderiv`: one fresh byte stands for the infinitely many unmentioned
naturals (`exists_rep`).  A successful run of `equivLoop` yields a set of pairs, on which `nullable` agrees, closed under
`nderiv c` for the representative bytes (`equivLoop_inv`); restricted to the pairs that mention only bytes of the two
inputs it is a bisimulation for every byte.
-/
import EspadaVerif.Model.Regex
import EspadaVerif.Lemmas.RegexLang

namespace EspadaVerif.Rx
open Re

theorem beq_eq (a b : Re) (h : beq a b = true) : a = b := by
  fun_induction beq a b <;> simp_all

theorem lang_mkSeq (a b : Re) (s : List Nat) : Lang (mkSeq a b) s ↔ Lang (seq a b) s := by
  fun_cases mkSeq a b
  · exact (lang_seq_empty_left ..).symm
  · exact (lang_seq_empty_right ..).symm
  · exact (lang_seq_eps_left ..).symm
  · exact (lang_seq_eps_right ..).symm
  · exact Iff.rfl

theorem mentioned_mkSeq (a b : Re) (x : Nat) :
    x ∈ mentioned (mkSeq a b) → x ∈ mentioned a ∨ x ∈ mentioned b := by
  fun_cases mkSeq a b
  · exact nofun
  · exact nofun
  · exact .inr
  · exact .inl
  · exact List.mem_append.mp

/- `mkAlt a b` is `alt a b` up to the order and repetition of summands and to `∅`, so a predicate that reads `∅` as
`False` and a sum as a disjunction cannot tell them apart.  `Lang · s` and `x ∈ mentioned ·` are such predicates. -/
section
variable {P : Re → Prop} (h0 : ¬ P empty) (hor : ∀ a b, P (alt a b) ↔ P a ∨ P b)
include hor

theorem altMem_imp (a b : Re) (h : altMem a b = true) (ha : P a) : P b := by
  fun_induction altMem a b with
  | case1 x rest ih =>
    rcases Bool.or_eq_true _ _ ▸ h with h | h
    · exact (hor ..).mpr (.inl (beq_eq a x h ▸ ha))
    · exact (hor ..).mpr (.inr (ih h))
  | case2 b _ => exact beq_eq a b h ▸ ha

include h0

theorem mkAlt1_or (a b : Re) : P (mkAlt1 a b) ↔ P a ∨ P b := by
  fun_cases mkAlt1 a b
  · exact (or_iff_right h0).symm
  · exact (or_iff_left h0).symm
  · next h => exact (or_iff_right_of_imp (altMem_imp hor a b h)).symm
  · exact hor a b

theorem mkAlt_or (a b : Re) : P (mkAlt a b) ↔ P a ∨ P b := by
  fun_induction mkAlt a b with
  | case1 x y b ih₁ ih₂ => rw [ih₂, ih₁, hor, or_assoc]
  | case2 a b _ => exact mkAlt1_or h0 hor a b

end

theorem lang_mkAlt (a b : Re) (s : List Nat) : Lang (mkAlt a b) s ↔ Lang a s ∨ Lang b s :=
  mkAlt_or (P := (Lang · s)) id (fun _ _ => Iff.rfl) a b

theorem mentioned_mkAlt (a b : Re) (x : Nat) : x ∈ mentioned (mkAlt a b) ↔ x ∈ mentioned a ∨ x ∈ mentioned b :=
  mkAlt_or (P := (x ∈ mentioned ·)) List.not_mem_nil (fun _ _ => List.mem_append) a b

theorem lang_nderiv (c : Nat) (r : Re) (s : List Nat) : Lang (nderiv c r) s ↔ Lang (deriv c r) s := by
  induction r generalizing s with
  | seq a b iha ihb =>
    simp only [nderiv, deriv]
    split <;> simp only [lang_mkAlt, lang_mkSeq, Lang, iha, ihb]
  | alt a b iha ihb => simp only [nderiv, deriv, lang_mkAlt, Lang, iha, ihb]
  | star a iha => simp only [nderiv, deriv, lang_mkSeq, Lang, iha]
  | _ => exact Iff.rfl

theorem matches_nderiv (c : Nat) (r : Re) (s : List Nat) :
    Rx.matches (nderiv c r) s = Rx.matches r (c :: s) :=
  matches_congr (lang_nderiv c r) s

theorem mentioned_nderiv (c : Nat) (r : Re) : mentioned (nderiv c r) ⊆ mentioned r := by
  intro x h
  induction r with
  | empty => exact h
  | eps => exact h
  | cls bs => simp only [nderiv] at h; split at h <;> cases h
  | seq a b iha ihb =>
    have hab (h : x ∈ mentioned (mkSeq (nderiv c a) b)) : x ∈ mentioned a ∨ x ∈ mentioned b :=
      (mentioned_mkSeq _ _ x h).imp_left iha
    simp only [nderiv] at h
    simp only [mentioned, List.mem_append]
    split at h
    · exact ((mentioned_mkAlt ..).mp h).elim hab fun h => .inr (ihb h)
    · exact hab h
  | alt a b iha ihb => exact List.mem_append.mpr (((mentioned_mkAlt ..).mp h).imp iha ihb)
  | star a iha => exact (mentioned_mkSeq _ _ x h).elim iha id

theorem nderiv_unmentioned (c d : Nat) (r : Re) (hc : c ∉ mentioned r) (hd : d ∉ mentioned r) :
    nderiv c r = nderiv d r := by
  -- a byte enters `nderiv` only through `bs.contains`, which is `false` for an unmentioned one
  induction r <;> simp_all [mentioned, nderiv]

theorem le_maxOf (l : List Nat) (x : Nat) (h : x ∈ l) : x ≤ maxOf l := by
  induction l with
  | nil => cases h
  | cons y ys ih =>
    simp only [maxOf]
    rcases List.mem_cons.mp h with rfl | h
    · split <;> omega
    · have := ih h
      split <;> omega

theorem fresh_not_mem (l : List Nat) : fresh l ∉ l :=
  fun h => Nat.not_succ_le_self (maxOf l) (le_maxOf l _ h)

theorem mem_insertNew (x y : Nat) (l : List Nat) (h : x = y ∨ x ∈ l) : x ∈ insertNew y l := by
  unfold insertNew
  split
  · next hc => exact h.elim (fun e => e ▸ List.contains_iff_mem.mp hc) id
  · exact List.mem_cons.mpr h

theorem mem_dedup (l : List Nat) (x : Nat) (h : x ∈ l) : x ∈ dedup l := by
  induction l with
  | nil => cases h
  | cons y ys ih => exact mem_insertNew x y _ ((List.mem_cons.mp h).imp_right ih)

/-- every byte acts, on expressions that mention only bytes of `M`, like one of the representatives: itself if it is in
`M`, the fresh byte otherwise -/
theorem exists_rep (M : List Nat) (c : Nat) :
    ∃ d ∈ fresh M :: dedup M, ∀ r, mentioned r ⊆ M → nderiv c r = nderiv d r := by
  by_cases hc : c ∈ M
  · exact ⟨c, List.mem_cons_of_mem _ (mem_dedup M c hc), fun _ _ => rfl⟩
  · exact ⟨fresh M, List.mem_cons_self, fun r hr =>
      nderiv_unmentioned c (fresh M) r (fun h => hc (hr h)) (fun h => fresh_not_mem M (hr h))⟩

theorem pairMem_mem (a b : Re) (l : List (Re × Re)) (h : pairMem a b l = true) : (a, b) ∈ l := by
  induction l with
  | nil => cases h
  | cons p ps ih =>
    simp only [pairMem, Bool.or_eq_true, Bool.and_eq_true] at h
    rcases h with ⟨h₁, h₂⟩ | h
    · exact beq_eq a p.1 h₁ ▸ beq_eq b p.2 h₂ ▸ List.mem_cons_self
    · exact List.mem_cons_of_mem _ (ih h)

theorem succs_eq (reps : List Nat) (a b : Re) (rest : List (Re × Re)) :
    succs reps a b rest = reps.map (fun c => (nderiv c a, nderiv c b)) ++ rest := by
  induction reps with
  | nil => rfl
  | cons c cs ih => exact congrArg (_ :: ·) ih

/-- a successful run leaves a set of pairs that contains everything seen or still to do, in which every pair was
already seen or agrees on `nullable` and has all its `reps`-successors in the set -/
theorem equivLoop_inv (reps : List Nat) (fuel : Nat) (todo seen : List (Re × Re))
    (h : equivLoop reps fuel todo seen = true) :
    ∃ S : List (Re × Re), seen ⊆ S ∧ todo ⊆ S ∧
      ∀ p ∈ S, p ∈ seen ∨
        (nullable p.1 = nullable p.2 ∧ ∀ c ∈ reps, (nderiv c p.1, nderiv c p.2) ∈ S) := by
  fun_induction equivLoop reps fuel todo seen with
  | case1 => cases h
  | case2 _ seen => exact ⟨seen, List.Subset.refl _, List.nil_subset _, fun _ => .inl⟩
  | case3 fuel p rest seen hm ih =>
    obtain ⟨S, hseen, htodo, hS⟩ := ih h
    exact ⟨S, hseen, List.cons_subset.mpr ⟨hseen (pairMem_mem _ _ seen hm), htodo⟩, hS⟩
  | case4 fuel p rest seen hm hnul ih =>
    -- `p` joins `seen`; the set found for the rest of the run contains its successors, since they were put on `todo`
    obtain ⟨S, hseen, htodo, hS⟩ := ih h
    obtain ⟨hp, hseen⟩ := List.cons_subset.mp hseen
    obtain ⟨hsucc, hrest⟩ := List.append_subset.mp (succs_eq .. ▸ htodo)
    refine ⟨S, hseen, List.cons_subset.mpr ⟨hp, hrest⟩, fun q hq => ?_⟩
    rcases hS q hq with hq | hgood
    · rcases List.mem_cons.mp hq with rfl | hq
      · exact .inr ⟨by simpa using hnul, fun c hc => hsucc (List.mem_map_of_mem hc)⟩
      · exact .inl hq
    · exact .inr hgood
  | case5 => cases h

theorem bisim_matches (R : Re → Re → Prop)
    (hnull : ∀ a b, R a b → nullable a = nullable b)
    (hstep : ∀ a b, R a b → ∀ c, R (nderiv c a) (nderiv c b)) :
    ∀ (s : List Nat) (a b : Re), R a b → Rx.matches a s = Rx.matches b s := by
  intro s
  induction s with
  | nil => intro a b h; exact hnull a b h
  | cons c s ih =>
    intro a b h
    rw [← matches_nderiv, ← matches_nderiv]
    exact ih _ _ (hstep a b h c)

/-- **soundness of the checker**: a `true` answer means the two expressions match exactly the same byte strings
(bytes are arbitrary naturals) -/
theorem equivCheck_sound (fuel : Nat) (r₁ r₂ : Re) (h : equivCheck fuel r₁ r₂ = true) :
    ∀ s : List Nat, Rx.matches r₁ s = Rx.matches r₂ s := by
  obtain ⟨S, _, htodo, hS⟩ := equivLoop_inv _ _ _ _ h
  replace hS := fun p hp => (hS p hp).resolve_left List.not_mem_nil
  let M := mentioned r₁ ++ mentioned r₂
  -- the bisimulation: the pairs of `S` that mention only bytes of the inputs
  refine fun s => bisim_matches (fun a b => (a, b) ∈ S ∧ mentioned a ⊆ M ∧ mentioned b ⊆ M)
    (fun a b hab => (hS _ hab.1).1) ?_ s r₁ r₂
    ⟨htodo List.mem_cons_self, List.subset_append_left .., List.subset_append_right ..⟩
  intro a b ⟨hab, ha, hb⟩ c
  obtain ⟨d, hd, e⟩ := exists_rep M c
  rw [e a ha, e b hb]
  exact ⟨(hS _ hab).2 d hd, (mentioned_nderiv d a).trans ha, (mentioned_nderiv d b).trans hb⟩

end EspadaVerif.Rx
