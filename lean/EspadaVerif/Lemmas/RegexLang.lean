/-
Lemmas/RegexLang: a denotational semantics `Lang` for `Rx.Re`, the proof that `Rx.matches` decides it, and the
`Bool`-level equations for `matches` on each constructor (the hand proofs in `Props/C09Regex` use those for `cls`, `seq`,
`star` and `alt`).
-/
import EspadaVerif.Model.Regex

namespace EspadaVerif.Rx
open Re

inductive Star (P : List Nat → Prop) : List Nat → Prop
  | nil : Star P []
  | cons {x y : List Nat} : P x → Star P y → Star P (x ++ y)

def Lang : Re → List Nat → Prop
  | empty, _ => False
  | eps, s => s = []
  | cls bs, s => ∃ c, bs.contains c = true ∧ s = [c]
  | seq a b, s => ∃ x y, s = x ++ y ∧ Lang a x ∧ Lang b y
  | alt a b, s => Lang a s ∨ Lang b s
  | star a, s => Star (Lang a) s

theorem lang_seq_empty_left (b : Re) (s : List Nat) : Lang (seq empty b) s ↔ Lang empty s := by simp [Lang]

theorem lang_seq_empty_right (a : Re) (s : List Nat) : Lang (seq a empty) s ↔ Lang empty s := by simp [Lang]

theorem lang_seq_eps_left (b : Re) (s : List Nat) : Lang (seq eps b) s ↔ Lang b s :=
  ⟨fun ⟨_, _, e, hx, h⟩ => by subst e hx; exact h, fun h => ⟨[], s, rfl, rfl, h⟩⟩

theorem lang_seq_eps_right (a : Re) (s : List Nat) : Lang (seq a eps) s ↔ Lang a s := by simp [Lang]

theorem nullable_iff (r : Re) : nullable r = true ↔ Lang r [] := by
  induction r with
  | seq a b iha ihb =>
    simp only [nullable, Lang, Bool.and_eq_true, iha, ihb]
    constructor
    · rintro ⟨ha, hb⟩
      exact ⟨[], [], rfl, ha, hb⟩
    · rintro ⟨x, y, h, ha, hb⟩
      obtain ⟨rfl, rfl⟩ := List.nil_eq_append_iff.mp h
      exact ⟨ha, hb⟩
  | alt a b iha ihb => simp only [nullable, Lang, Bool.or_eq_true, iha, ihb]
  | star a _ => exact iff_of_true rfl Star.nil
  | _ => simp [nullable, Lang]

theorem Star.cons_inv {P : List Nat → Prop} {t : List Nat} (h : Star P t) :
    ∀ c s, t = c :: s → ∃ x y, s = x ++ y ∧ P (c :: x) ∧ Star P y := by
  induction h with
  | nil => intro c s h; cases h
  | @cons x y px hs ih =>
    intro c s h
    cases x with
    | nil => exact ih c s (by simpa using h)
    | cons d x' =>
      simp only [List.cons_append, List.cons.injEq] at h
      obtain ⟨rfl, rfl⟩ := h
      exact ⟨x', y, rfl, px, hs⟩

theorem lang_seq_cons (a b : Re) (c : Nat) (s : List Nat) :
    Lang (seq a b) (c :: s) ↔ (∃ x y, s = x ++ y ∧ Lang a (c :: x) ∧ Lang b y) ∨ (Lang a [] ∧ Lang b (c :: s)) := by
  constructor
  · rintro ⟨x, y, h, ha, hb⟩
    cases x with
    | nil => exact Or.inr ⟨ha, (List.nil_append y ▸ h) ▸ hb⟩
    | cons d x' =>
      obtain ⟨rfl, rfl⟩ := List.cons.inj h
      exact Or.inl ⟨x', y, rfl, ha, hb⟩
  · rintro (⟨x, y, rfl, ha, hb⟩ | ⟨ha, hb⟩)
    · exact ⟨c :: x, y, rfl, ha, hb⟩
    · exact ⟨[], c :: s, rfl, ha, hb⟩

theorem deriv_iff (c : Nat) (r : Re) (s : List Nat) : Lang (deriv c r) s ↔ Lang r (c :: s) := by
  induction r generalizing s with
  | empty => exact Iff.rfl
  | eps => simp [deriv, Lang]
  | cls bs =>
    simp only [deriv]
    split <;> rename_i h
    · exact ⟨fun e => ⟨c, h, e ▸ rfl⟩, fun ⟨d, _, hd⟩ => (List.cons.inj hd).2⟩
    · exact ⟨False.elim, fun ⟨d, hd, hs⟩ => h ((List.cons.inj hs).1 ▸ hd)⟩
  | seq a b iha ihb =>
    rw [lang_seq_cons, ← nullable_iff]
    simp only [deriv]
    split
    · next hn => simp only [Lang, iha, ihb, hn, true_and]
    · next hn => simp only [Lang, iha, hn, Bool.false_eq_true, false_and, or_false]
  | alt a b iha ihb => simp only [deriv, Lang, iha, ihb]
  | star a iha =>
    simp only [deriv, Lang, iha]
    exact ⟨fun ⟨x, y, e, ha, hs⟩ => e ▸ Star.cons (x := c :: x) ha hs, fun h => Star.cons_inv h c s rfl⟩

theorem matches_nil (r : Re) : Rx.matches r [] = nullable r := rfl

theorem matches_cons (r : Re) (c : Nat) (s : List Nat) :
    Rx.matches r (c :: s) = Rx.matches (deriv c r) s := rfl

theorem matches_iff (r : Re) (s : List Nat) : Rx.matches r s = true ↔ Lang r s := by
  induction s generalizing r with
  | nil => exact nullable_iff r
  | cons c s ih => rw [matches_cons, ih, deriv_iff]

theorem matches_congr {a b : Re} (h : ∀ s, Lang a s ↔ Lang b s) (s : List Nat) :
    Rx.matches a s = Rx.matches b s := by
  rw [Bool.eq_iff_iff, matches_iff, matches_iff]
  exact h s

theorem matches_empty (s : List Nat) : Rx.matches empty s = false :=
  Bool.eq_false_iff.mpr (matches_iff empty s).mp

theorem matches_eps (s : List Nat) : Rx.matches eps s = s.isEmpty := by
  rw [Bool.eq_iff_iff, matches_iff, List.isEmpty_iff]
  exact Iff.rfl

theorem matches_alt (a b : Re) (s : List Nat) :
    Rx.matches (alt a b) s = (Rx.matches a s || Rx.matches b s) := by
  rw [Bool.eq_iff_iff, Bool.or_eq_true, matches_iff, matches_iff, matches_iff]
  exact Iff.rfl

theorem matches_seq_iff (a b : Re) (s : List Nat) :
    Rx.matches (seq a b) s = true ↔ ∃ x y, s = x ++ y ∧ Rx.matches a x = true ∧ Rx.matches b y = true := by
  simp only [matches_iff, Lang]

theorem matches_seq_eps (b : Re) (s : List Nat) : Rx.matches (seq eps b) s = Rx.matches b s :=
  matches_congr (lang_seq_eps_left b) s

theorem matches_seq_empty (b : Re) (s : List Nat) : Rx.matches (seq empty b) s = false :=
  (matches_congr (lang_seq_empty_left b) s).trans (matches_empty s)

theorem matches_cls_seq_cons (bs : List Nat) (r : Re) (c : Nat) (s : List Nat) :
    Rx.matches (seq (cls bs) r) (c :: s) = (bs.contains c && Rx.matches r s) := by
  -- the derivative is `ε·r` or `∅·r`
  show Rx.matches (seq (if bs.contains c then eps else empty) r) s = _
  cases bs.contains c with
  | true => exact matches_seq_eps r s
  | false => exact matches_seq_empty r s

theorem matches_cls_seq_nil (bs : List Nat) (r : Re) : Rx.matches (seq (cls bs) r) [] = false := rfl

/-- one element of a pattern: a byte of the class, then `r` -/
theorem matches_cls_seq (bs : List Nat) (r : Re) (s : List Nat) :
    Rx.matches (seq (cls bs) r) s = match s with
      | [] => false
      | c :: t => bs.contains c && Rx.matches r t := by
  cases s with
  | nil => rfl
  | cons c t => exact matches_cls_seq_cons bs r c t

theorem matches_cls_nil (bs : List Nat) : Rx.matches (cls bs) [] = false := rfl

theorem matches_cls_cons (bs : List Nat) (c : Nat) (s : List Nat) :
    Rx.matches (cls bs) (c :: s) = (bs.contains c && s.isEmpty) := by
  rw [← matches_eps, ← matches_cls_seq_cons]
  exact (matches_congr (lang_seq_eps_right (cls bs)) (c :: s)).symm

theorem matches_star_cls (bs : List Nat) (s : List Nat) :
    Rx.matches (star (cls bs)) s = s.all (fun c => bs.contains c) := by
  induction s with
  | nil => rfl
  | cons c s ih =>
    -- `[bs]*` and `[bs]·[bs]*` have the same derivative
    show Rx.matches (seq (cls bs) (star (cls bs))) (c :: s) = _
    rw [matches_cls_seq_cons, ih, List.all_cons]

end EspadaVerif.Rx
