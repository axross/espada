/-
Lemmas/Winners: `Spec.winnersOf` — somebody always wins.
-/
import EspadaVerif.Spec.ShowdownSpec

namespace EspadaVerif.Lemmas
open Spec

/-- at a non-empty table somebody is flagged: the player holding the least index -/
theorem winnersOf_pos {hs : List Nat} (hne : hs ≠ []) : 1 ≤ (winnersOf hs).countP id := by
  cases h : hs.min? with
  | none => exact absurd (List.min?_eq_none_iff.mp h) hne
  | some m =>
    obtain ⟨hm, hle⟩ := List.min?_eq_some_iff.mp h
    rw [List.one_le_countP_iff]
    exact ⟨true, List.mem_map.mpr ⟨m, hm, List.all_eq_true.mpr fun x hx => decide_eq_true (hle x hx)⟩, rfl⟩

end EspadaVerif.Lemmas
