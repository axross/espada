/-
Lemmas/ReadToken: the oracle's token reader `readToken` (Spec/Notation) is sound (by construction: its last step
tests `wf` and `text` on the candidate) and complete with respect to `WfToken.wf` / `WfToken.text`, and therefore
`text` is injective on well-formed tokens.
-/
import EspadaVerif.Spec.Notation

namespace EspadaVerif.Spec

theorem rankOfLetter_rl : ∀ r, r < 13 → rankOfLetter (rl r) = some r := by decide
/-- a suit letter is not a rank letter: this is what sends a card-pair text to the `cards` branch of the reader -/
theorem suitOfLetter_sl : ∀ s, s < 4 → suitOfLetter (sl s) = some s ∧ rankOfLetter (sl s) = none := by decide
theorem soOfLetter_so (s : Bool) : soOfLetter (so s) = some s ∧ (so s == 43) = false := by cases s <;> decide

theorem readToken_complete (w : WfToken) (h : w.wf = true) : readToken w.text = some w := by
  -- in every case the letters read back as the ranks and suits they stand for (their bounds are in `h`), so the
  -- candidate is `w` itself, and the reader's final test is `h` again
  cases w <;> simp only [WfToken.wf, Bool.and_eq_true, decide_eq_true_eq, bne_iff_ne] at h <;>
    simp (disch := omega) [readToken, WfToken.text, WfToken.wf, rankOfLetter_rl, suitOfLetter_sl, soOfLetter_so,
      Nat.div_add_mod, h]

theorem readToken_sound (t : List Nat) (w : WfToken) (h : readToken t = some w) :
    w.wf = true ∧ w.text = t := by
  -- whatever candidate the reader finds, it returns it only after testing `wf` and `text`
  unfold readToken at h
  dsimp only at h
  split at h
  · split at h
    · next hc => cases h; simpa using hc
    · cases h
  · cases h

theorem text_injective (w₁ w₂ : WfToken) (h₁ : w₁.wf = true) (h₂ : w₂.wf = true)
    (h : w₁.text = w₂.text) : w₁ = w₂ :=
  Option.some.inj ((readToken_complete w₁ h₁).symm.trans (h ▸ readToken_complete w₂ h₂))

end EspadaVerif.Spec
