/-
Lemmas/RowRuns: the run-length pass of `Display for HandRange` on one row of a rank-pair table (ranks `first … 12` under
`mk`).  The state machine `rowTokens` writes one token per run of `Spec.runs`: its loop and `Spec.runs.go` step together,
their open runs related by `OpenAt` (`loop_runs`).  The runs of `Spec.runs` are the maximal runs: `RunsFinal` holds, at every
step of `go`, between the cells passed and the runs written so far with the open run last (`go_final`).  Last, `RunsFinal`
of a row read cell by cell from the table (`RunsFinal.row_nonempty` … `row_neighbours_ne`).
-/
import EspadaVerif.Lemmas.ListBasics
import EspadaVerif.Lemmas.TextDefs
import EspadaVerif.Props.C13

namespace EspadaVerif.C17
variable {W : Type}

/-- the token written for a maximal run `(start, length, weight)` of a row whose top rank is `first`:
`X+` when the run starts at the top and has length ≥ 2, a single rank pair for length 1, `X-Y` otherwise -/
def runToken (first : Nat) (mk : Nat → RankPair) (run : Nat × Nat × W) : Token W :=
  let (s, n, w) := run
  if s = 0 ∧ n ≥ 2 then ⟨.bottomClosed (mk (first + n - 1)), w⟩
  else if n = 1 then ⟨.singleRank (mk (first + s)), w⟩
  else ⟨.doubleClosed (mk (first + s)) (first + s + n - 1), w⟩

/-- the cells of one row of a table: ranks `first … 12` (deuce), the top of the row first -/
def rowOf (tbl : RankPair → Option W) (first : Nat) (mk : Nat → RankPair) : List (Option W) :=
  (List.range' first (13 - first)).map fun k => tbl (mk k)

/-- the runs `(start, length, weight)` of a row, `start` counted from the top of the row: cell `first + start` of the table -/
def rowRunsOf (wt : WText W) (tbl : RankPair → Option W) (first : Nat) (mk : Nat → RankPair) : List (Nat × Nat × W) :=
  Spec.runs wt.eq (rowOf tbl first mk)

/-- the tokens `Display` writes for a row (`FormatFacts.rowTokens_runs`) -/
def rowText (wt : WText W) (tbl : RankPair → Option W) (first : Nat) (mk : Nat → RankPair) : List (Token W) :=
  (rowRunsOf wt tbl first mk).map (runToken first mk)

end EspadaVerif.C17

namespace EspadaVerif.FormatFacts
open C17 Lemmas

variable {W : Type}

theorem runsGo_nil (weq : W → W → Bool) (i : Nat) (cur : Option (Nat × Nat × W)) (acc : List (Nat × Nat × W)) :
    Spec.runs.go weq [] i cur acc = acc ++ cur.toList := by
  cases cur <;> simp [Spec.runs.go]

theorem runsGo_none (weq : W → W → Bool) (rest : List (Option W)) (i : Nat) (cur : Option (Nat × Nat × W))
    (acc : List (Nat × Nat × W)) :
    Spec.runs.go weq (none :: rest) i cur acc = Spec.runs.go weq rest (i + 1) none (acc ++ cur.toList) := by
  cases cur <;> simp [Spec.runs.go]

/-- the token the state machine writes when it closes, before rank `r`, the run open since rank `s`: the token of that run -/
theorem loopToken_eq (first : Nat) (mk : Nat → RankPair) (s r : Nat) (sp : W) (h1 : first ≤ s) (h2 : s < r) :
    (if (s = first && r - 1 ≠ first) = true then (⟨.bottomClosed (mk (r - 1)), sp⟩ : Token W)
      else if s = r - 1 then ⟨.singleRank (mk (r - 1)), sp⟩
      else ⟨.doubleClosed (mk s) (r - 1), sp⟩)
    = runToken first mk (s - first, r - s, sp) := by
  have e1 : first + (s - first) = s := by omega
  have e2 : s + (r - s) - 1 = r - 1 := by omega
  have c1 : (s - first = 0 ∧ r - s ≥ 2) ↔ (s = first ∧ r - 1 ≠ first) := by omega
  have c2 : r - s = 1 ↔ s = r - 1 := by omega
  simp only [runToken, e1, e2, c1, c2, Bool.and_eq_true, decide_eq_true_eq]
  split
  · next h => rw [← h.1, e2]
  · split
    · next h => rw [← h]
    · rfl

/-- the simulation relation at rank `r`: the state machine has a run open since rank `start` iff `Spec.runs.go` has the
run open that starts there, is as long as the ranks passed since, and carries the weight looked up at `start` -/
def OpenAt (first : Nat) (look : Nat → Option W) (r : Nat) : Option Nat → Option (Nat × Nat × W) → Prop
  | none, cur => cur = none
  | some s, cur => first ≤ s ∧ s < r ∧ ∃ sp, look s = some sp ∧ cur = some (s - first, r - s, sp)

theorem loop_runs (wt : WText W) (first : Nat) (mk : Nat → RankPair) (look : Nat → Option W) {e : Nat} (he : e ≤ 13) :
    ∀ (n r : Nat), r + n = e → first ≤ r →
    ∀ (start : Option Nat) (cur : Option (Nat × Nat × W)) (acc : List (Nat × Nat × W)), OpenAt first look r start cur →
      ∃ start' cur' acc',
        rowTokens.loop wt first mk look (List.range' r n) start (acc.map (runToken first mk))
          = .ok (start', acc'.map (runToken first mk))
        ∧ Spec.runs.go wt.eq ((List.range' r n).map look) (r - first) cur acc = acc' ++ cur'.toList
        ∧ OpenAt first look e start' cur' := by
  intro n
  induction n with
  | zero =>
    intro r hr _ start cur acc hst
    cases hr
    exact ⟨start, cur, acc, rfl, runsGo_nil .., hst⟩
  | succ n ih =>
    intro r hr hfr start cur acc hst
    replace ih := ih (r + 1) (by omega) (by omega)
    rw [Nat.sub_add_comm hfr] at ih
    simp only [List.range'_succ, List.map_cons, rowTokens.loop]
    cases start with
    | none =>
      cases (show cur = none from hst)
      cases hl : look r with
      | none => exact ih none none acc rfl
      | some p => exact ih (some r) _ acc ⟨hfr, by omega, p, hl, by rw [Nat.add_sub_cancel_left]⟩
    | some s =>
      obtain ⟨h1, h2, sp, h3, rfl⟩ := hst
      -- `r < 13` (from `r + n = e ≤ 13`) is needed here only: `rank.prev().unwrap()` wants a rank, other than the ace (`s < r`)
      have hprev : rankPrev r = some (r - 1) := by
        rw [(C13.rank_next_prev r (by omega)).2, if_pos (by omega)]
      have hclose : ∀ c, acc.map (runToken first mk) ++ [runToken first mk c] = (acc ++ [c]).map (runToken first mk) :=
        fun c => by rw [List.map_append]; rfl
      simp only [h3, hprev, loopToken_eq first mk s r sp h1 h2, hclose]
      cases hl : look r with
      | none => exact ih none none _ rfl
      | some p =>
        cases hq : wt.eq p sp with
        | false =>
          simp only [Spec.runs.go, hq]
          exact ih (some r) _ _ ⟨hfr, by omega, p, hl, by rw [Nat.add_sub_cancel_left]⟩
        | true =>
          simp only [Spec.runs.go, hq]
          exact ih (some s) _ acc ⟨h1, by omega, sp, h3, by rw [Nat.sub_add_comm (Nat.le_of_lt h2)]⟩

/-- one token per run of `Spec.runs`, in row order (that these are the maximal runs is `runs_final`) -/
theorem rowTokens_runs (wt : WText W) (rps : List (RankPair × W)) (first : Nat) (hf : first ≤ 12) (mk : Nat → RankPair) :
    rowTokens wt rps first 12 mk (List.range' first (13 - first)) = .ok (rowText wt (rpLookup rps) first mk) := by
  obtain ⟨start, cur, acc, hloop, hgo, hst⟩ := loop_runs wt first mk (fun rank => rpLookup rps (mk rank)) (Nat.le_refl 13)
    (13 - first) first (by omega) (Nat.le_refl _) none none [] rfl
  rw [Nat.sub_self] at hgo
  simp only [rowTokens, List.map_nil] at hloop ⊢
  simp only [hloop, rowText, rowRunsOf, rowOf, Spec.runs, hgo]
  cases start with
  | none => cases (show cur = none from hst); simp
  | some s =>
    obtain ⟨h1, h2, sp, h3, rfl⟩ := hst
    -- the flush writes `mk s` where the loop writes `mk prev` for a single rank
    simp only [h3, Option.toList_some, List.map_append, List.map_cons, List.map_nil, ← loopToken_eq first mk s 13 sp h1 h2]
    by_cases hs : s = 12
    · subst hs; simp
    · simp [hs]

/-- a list of runs of `row`, all ending at or before `i`: non-empty weight-constant stretches of present entries,
disjoint and in order, and two touching consecutive runs carry different weights -/
structure RunsOk (weq : W → W → Bool) (row : List (Option W)) (i : Nat) (rs : List (Nat × Nat × W)) : Prop where
  body : ∀ run ∈ rs, 1 ≤ run.2.1 ∧ run.1 + run.2.1 ≤ i
      ∧ ∀ j, run.1 ≤ j → j < run.1 + run.2.1 → ∃ w', row[j]? = some (some w') ∧ weq w' run.2.2 = true
  sorted : List.Pairwise (fun a b => a.1 + a.2.1 ≤ b.1) rs
  sep : ∀ k, ∀ a b, rs[k]? = some a → rs[k + 1]? = some b → a.1 + a.2.1 = b.1 →
      ∃ wb, row[b.1]? = some (some wb) ∧ weq wb a.2.2 = false

theorem RunsOk.nil (weq : W → W → Bool) (row : List (Option W)) (i : Nat) : RunsOk weq row i [] :=
  ⟨by simp, List.Pairwise.nil, by simp⟩

theorem RunsOk.mono {weq : W → W → Bool} {row row' : List (Option W)} {i i' : Nat} {rs : List (Nat × Nat × W)}
    (h : RunsOk weq row i rs) (hi : i ≤ i') (hrow : ∀ (j : Nat) v, row[j]? = some v → row'[j]? = some v) :
    RunsOk weq row' i' rs :=
  ⟨fun run hr => let ⟨h1, h2, h3⟩ := h.body run hr
    ⟨h1, Nat.le_trans h2 hi, fun j hj1 hj2 => let ⟨w', hw, he⟩ := h3 j hj1 hj2; ⟨w', hrow _ _ hw, he⟩⟩,
   h.sorted, fun k a b ha hb hab => let ⟨wb, hw, he⟩ := h.sep k a b ha hb hab; ⟨wb, hrow _ _ hw, he⟩⟩

section
variable {weq : W → W → Bool} {row : List (Option W)} {i : Nat} {rs : List (Nat × Nat × W)}

theorem RunsOk.snoc_iff {c : Nat × Nat × W} :
    RunsOk weq row i (rs ++ [c]) ↔ RunsOk weq row i rs
      ∧ (1 ≤ c.2.1 ∧ c.1 + c.2.1 ≤ i
          ∧ ∀ j, c.1 ≤ j → j < c.1 + c.2.1 → ∃ w', row[j]? = some (some w') ∧ weq w' c.2.2 = true)
      ∧ (∀ a ∈ rs, a.1 + a.2.1 ≤ c.1)
      ∧ (∀ a, rs.getLast? = some a → a.1 + a.2.1 = c.1 → ∃ wb, row[c.1]? = some (some wb) ∧ weq wb a.2.2 = false) := by
  constructor
  · rintro ⟨hb, hs, hp⟩
    rw [List.forall_mem_append] at hb
    rw [List.pairwise_append] at hs
    rw [forall_adjacent_concat] at hp
    exact ⟨⟨hb.1, hs.1, hp.1⟩, hb.2 c (List.mem_singleton_self c), fun a ha => hs.2.2 a ha c (List.mem_singleton_self c),
      hp.2⟩
  · rintro ⟨⟨hb, hs, hp⟩, hc, hlt, hlast⟩
    exact ⟨List.forall_mem_append.mpr ⟨hb, by simpa using hc⟩,
      List.pairwise_append.mpr ⟨hs, List.pairwise_singleton _ _, by simpa using hlt⟩,
      forall_adjacent_concat.mpr ⟨hp, hlast⟩⟩

/-- `rs` are the runs of `row`: they are `RunsOk` (weight-constant stretches of present cells, disjoint, in order, touching
neighbours differ), a run carries the weight of the cell it starts at, and every present cell is in one of them.
`Spec.runs.go` keeps this, of the cells it has passed and the runs it has written with the open one last, in three ways
(`skip`, `push`, `grow`). -/
structure RunsFinal (weq : W → W → Bool) (row : List (Option W)) (rs : List (Nat × Nat × W)) : Prop where
  ok : RunsOk weq row row.length rs
  weight : ∀ run ∈ rs, row[run.1]? = some (some run.2.2)
  cover : ∀ i w', row[i]? = some (some w') → ∃ run ∈ rs, run.1 ≤ i ∧ i < run.1 + run.2.1

/-- an absent cell leaves the runs as they are -/
theorem RunsFinal.skip (h : RunsFinal weq row rs) : RunsFinal weq (row ++ [none]) rs := by
  refine ⟨h.ok.mono (by simp) (getElem?_concat_of_some none),
    fun run hr => getElem?_concat_of_some _ _ _ (h.weight run hr), fun j w' hj => ?_⟩
  rcases (getElem?_concat_eq_some ..).mp hj with hj | ⟨_, hx⟩
  · exact h.cover j w' hj
  · cases hx

/-- a present cell opens a run -/
theorem RunsFinal.push (h : RunsFinal weq row rs) {w : W} (hw : weq w w = true)
    (hlast : ∀ a, rs.getLast? = some a → a.1 + a.2.1 = row.length → weq w a.2.2 = false) :
    RunsFinal weq (row ++ [some w]) (rs ++ [(row.length, 1, w)]) := by
  have hx : (row ++ [some w])[row.length]? = some (some w) := List.getElem?_concat_length
  refine ⟨RunsOk.snoc_iff.mpr ⟨h.ok.mono (by simp) (getElem?_concat_of_some _),
      ⟨Nat.le_refl 1, by simp, fun j h1 h2 => ?_⟩, fun a ha => (h.ok.body a ha).2.1,
      fun a ha hai => ⟨w, hx, hlast a ha hai⟩⟩,
    List.forall_mem_append.mpr ⟨fun run hr => getElem?_concat_of_some _ _ _ (h.weight run hr), by simp⟩,
    fun j w' hj => ?_⟩
  · cases (show j = row.length by simp only at h1 h2; omega)
    exact ⟨w, hx, hw⟩
  · rcases (getElem?_concat_eq_some ..).mp hj with hj | ⟨rfl, _⟩
    · obtain ⟨run, hr, h⟩ := h.cover j w' hj
      exact ⟨run, List.mem_append_left _ hr, h⟩
    · exact ⟨_, List.mem_append_right _ (List.mem_singleton_self _), Nat.le_refl _, Nat.lt_succ_self _⟩

/-- the last run, which ends with the row, takes in a present cell -/
theorem RunsFinal.grow {s n : Nat} {w w0 : W} (h : RunsFinal weq row (rs ++ [(s, n, w0)])) (hi : s + n = row.length)
    (hq : weq w w0 = true) : RunsFinal weq (row ++ [some w]) (rs ++ [(s, n + 1, w0)]) := by
  have hx : (row ++ [some w])[row.length]? = some (some w) := List.getElem?_concat_length
  obtain ⟨hok, hwt, hcov⟩ := h
  obtain ⟨hrs, ⟨c1, _, c3⟩, h4, h5⟩ :=
    RunsOk.snoc_iff.mp (hok.mono (i' := (row ++ [some w]).length) (by simp) (getElem?_concat_of_some (some w)))
  rw [List.forall_mem_append] at hwt
  simp only at c1 c3
  refine ⟨RunsOk.snoc_iff.mpr ⟨hrs, ⟨by simp only; omega, by simp; omega, fun j h1 h2 => ?_⟩, h4, h5⟩,
    List.forall_mem_append.mpr ⟨fun run hr => getElem?_concat_of_some _ _ _ (hwt.1 run hr),
      by simpa using getElem?_concat_of_some (some w) _ _ (hwt.2 _ (List.mem_singleton_self _))⟩, fun j w' hj => ?_⟩
  · simp only at h1 h2
    by_cases hji : j = row.length
    · subst hji; exact ⟨w, hx, hq⟩
    · exact c3 j h1 (by omega)
  · simp only [List.mem_append, List.mem_singleton, or_and_right, exists_or, exists_eq_left] at hcov ⊢
    rcases (getElem?_concat_eq_some ..).mp hj with hj | ⟨rfl, _⟩
    · exact (hcov j w' hj).imp id (by omega)
    · exact .inr (by omega)

end

/-- the one induction over `Spec.runs.go`: when it has passed the cells `pre`, the runs written so far with the open one last
are the runs of `pre`, the open run ends with `pre`, and with no run open all end before.  Reflexivity of `weq` is used only
at a weight that starts a run. -/
theorem go_final (weq : W → W → Bool) :
    ∀ (rest pre : List (Option W)) (cur : Option (Nat × Nat × W)) (acc : List (Nat × Nat × W)),
      (∀ w, some w ∈ rest → weq w w = true) → RunsFinal weq pre (acc ++ cur.toList) →
      (match cur with
        | none => ∀ run ∈ acc, run.1 + run.2.1 < pre.length
        | some c => c.1 + c.2.1 = pre.length) →
      RunsFinal weq (pre ++ rest) (Spec.runs.go weq rest pre.length cur acc) := by
  intro rest
  induction rest with
  | nil =>
    intro pre cur acc _ h _
    rw [runsGo_nil, List.append_nil]
    exact h
  | cons x rest ih =>
    intro pre cur acc hrefl hup hcur
    replace ih := fun cur acc => ih (pre ++ [x]) cur acc fun w hw => hrefl w (List.mem_cons_of_mem _ hw)
    rw [List.append_assoc, List.length_append, List.length_singleton] at ih
    cases x with
    | none =>
      rw [runsGo_none]
      refine ih none _ (by simpa using hup.skip) fun run hr => ?_
      have := (hup.ok.body run hr).2.1
      omega
    | some w =>
      have hw := hrefl w List.mem_cons_self
      cases cur with
      | none =>
        rw [Option.toList_none, List.append_nil] at hup
        simp only [Spec.runs.go]
        refine ih _ acc (hup.push hw fun a ha hai => ?_) rfl
        have := hcur a (List.mem_of_getLast? ha)
        omega
      | some c =>
        obtain ⟨s, n, w0⟩ := c
        have hsn : s + n = pre.length := hcur
        simp only [Spec.runs.go]
        split
        · next hq => exact ih _ acc (hup.grow hsn hq) (by simp only; omega)
        · next hq =>
          refine ih _ _ (hup.push hw fun a ha _ => ?_) rfl
          rw [List.getLast?_append] at ha
          cases (show a = (s, n, w0) by simpa using ha.symm)
          simpa using hq

/-- **the runs of `Spec.runs` are the maximal runs**, for a comparison that is reflexive on the weights of the row -/
theorem runs_final (weq : W → W → Bool) (row : List (Option W)) (hrefl : ∀ w, some w ∈ row → weq w w = true) :
    RunsFinal weq row (Spec.runs weq row) := by
  have h := go_final weq row [] none [] hrefl ⟨RunsOk.nil _ _ _, by simp, by simp⟩ (by simp)
  rwa [List.nil_append] at h

theorem RunsFinal.neighbours {weq : W → W → Bool} {row : List (Option W)} {rs : List (Nat × Nat × W)}
    (h : RunsFinal weq row rs) {k : Nat} {a b : Nat × Nat × W} (ha : rs[k]? = some a) (hb : rs[k + 1]? = some b) :
    (a.1 + a.2.1 < b.1 ∧ row[a.1 + a.2.1]? = some none) ∨ (a.1 + a.2.1 = b.1 ∧ weq b.2.2 a.2.2 = false) := by
  obtain ⟨⟨hbody, hsorted, hsep⟩, hwt, hcov⟩ := h
  obtain ⟨hk, rfl⟩ := List.getElem?_eq_some_iff.mp ha
  obtain ⟨hk1, rfl⟩ := List.getElem?_eq_some_iff.mp hb
  rw [List.pairwise_iff_getElem] at hsorted
  have ha1 := (hbody _ (List.getElem_mem hk)).1
  obtain ⟨hb1, hb2, _⟩ := hbody _ (List.getElem_mem hk1)
  rcases Nat.lt_or_eq_of_le (hsorted k (k + 1) hk hk1 (Nat.lt_succ_self k)) with hlt | heq
  · refine .inl ⟨hlt, ?_⟩
    have hx := List.getElem?_eq_getElem (l := row) (i := rs[k].1 + rs[k].2.1) (by omega)
    cases hc : row[rs[k].1 + rs[k].2.1] with
    | none => rw [hx, hc]
    | some w' =>
      -- were the cell present it would lie in a run `rs[m]`, and none has room for it: `m ≤ k`, or `k + 1 ≤ m`
      obtain ⟨run, hrun, hr1, hr2⟩ := hcov _ w' (hc ▸ hx)
      obtain ⟨m, hm, rfl⟩ := List.getElem_of_mem hrun
      rcases Nat.lt_trichotomy m k with h | rfl | h
      · have := hsorted m k hm hk h; omega
      · omega
      · rcases Nat.lt_or_eq_of_le (show k + 1 ≤ m from h) with h | rfl
        · have := hsorted (k + 1) m hk1 hm h; omega
        · omega
  · obtain ⟨wb, hwb, he⟩ := hsep k _ _ ha hb heq
    cases Option.some.inj (Option.some.inj ((hwt _ (List.getElem_mem hk1)).symm.trans hwb))
    exact .inr ⟨heq, he⟩

theorem rowOf_get (tbl : RankPair → Option W) (first : Nat) (mk : Nat → RankPair) (j : Nat) (x : Option W) :
    (rowOf tbl first mk)[j]? = some x ↔ j < 13 - first ∧ tbl (mk (first + j)) = x := by
  simp only [rowOf, List.getElem?_map, Option.map_eq_some_iff, List.getElem?_eq_some_iff, List.length_range',
    List.getElem_range', Nat.one_mul]
  exact ⟨fun ⟨_, ⟨h, rfl⟩, e⟩ => ⟨h, e⟩, fun ⟨h, e⟩ => ⟨_, ⟨h, rfl⟩, e⟩⟩

theorem rowOf_length (tbl : RankPair → Option W) (first : Nat) (mk : Nat → RankPair) :
    (rowOf tbl first mk).length = 13 - first := by
  simp [rowOf]

theorem runToken_prob (first : Nat) (mk : Nat → RankPair) (run : Nat × Nat × W) :
    (runToken first mk run).prob = run.2.2 := by
  obtain ⟨s, n, w⟩ := run
  simp only [runToken]
  split
  · rfl
  · split <;> rfl

/-- reflexivity of `==` is asked of the weights in the table only: those `rank_pairs()` reports have it whatever `==` is
(`C17.reported_self_eq`) -/
theorem rowRunsOf_final (wt : WText W) (tbl : RankPair → Option W) (first : Nat) (mk : Nat → RankPair)
    (hrefl : ∀ rp w, tbl rp = some w → wt.eq w w = true) :
    RunsFinal wt.eq (rowOf tbl first mk) (rowRunsOf wt tbl first mk) :=
  runs_final wt.eq _ fun _ hw =>
    let ⟨_, _, hk⟩ := List.mem_map.mp hw
    hrefl _ _ hk

/-! `RunsFinal` of a row, read from the table: cell `j` of the row is `tbl (mk (first + j))` (`rowOf_get`). -/

section
variable {weq : W → W → Bool} {tbl : RankPair → Option W} {first : Nat} {mk : Nat → RankPair}
  {rs : List (Nat × Nat × W)} (h : RunsFinal weq (rowOf tbl first mk) rs)

include h

theorem RunsFinal.row_nonempty {run : Nat × Nat × W} (hrun : run ∈ rs) : 1 ≤ run.2.1 :=
  (h.ok.body run hrun).1

theorem RunsFinal.row_fits {run : Nat × Nat × W} (hrun : run ∈ rs) : first + run.1 + run.2.1 ≤ 13 := by
  obtain ⟨h1, h2, _⟩ := h.ok.body run hrun
  rw [rowOf_length] at h2
  omega

theorem RunsFinal.row_weight {run : Nat × Nat × W} (hrun : run ∈ rs) : tbl (mk (first + run.1)) = some run.2.2 :=
  ((rowOf_get ..).mp (h.weight run hrun)).2

theorem RunsFinal.row_cells {run : Nat × Nat × W} (hrun : run ∈ rs) {j : Nat} (hj1 : run.1 ≤ j)
    (hj2 : j < run.1 + run.2.1) : ∃ w', tbl (mk (first + j)) = some w' ∧ weq w' run.2.2 = true :=
  let ⟨w', hw', he⟩ := (h.ok.body run hrun).2.2 j hj1 hj2
  ⟨w', ((rowOf_get ..).mp hw').2, he⟩

theorem RunsFinal.row_cover {j : Nat} {w' : W} (hj : first + j < 13) (hw' : tbl (mk (first + j)) = some w') :
    ∃ run ∈ rs, run.1 ≤ j ∧ j < run.1 + run.2.1 :=
  h.cover j w' ((rowOf_get ..).mpr ⟨by omega, hw'⟩)

theorem RunsFinal.row_neighbours {k : Nat} {a b : Nat × Nat × W} (ha : rs[k]? = some a) (hb : rs[k + 1]? = some b) :
    (a.1 + a.2.1 < b.1 ∧ tbl (mk (first + (a.1 + a.2.1))) = none) ∨ (a.1 + a.2.1 = b.1 ∧ weq b.2.2 a.2.2 = false) :=
  (h.neighbours ha hb).imp_left fun h' => ⟨h'.1, ((rowOf_get ..).mp h'.2).2⟩

/-! Where `==` is equality on the weights of the table, a run is constant and touching neighbours differ. -/

variable {inDom : W → Prop} (heq : ∀ a b, inDom a → inDom b → (weq a b = true ↔ a = b))
  (hdom : ∀ rp w, tbl rp = some w → inDom w)

include heq hdom

theorem RunsFinal.row_const {run : Nat × Nat × W} (hrun : run ∈ rs) {j : Nat} (hj1 : run.1 ≤ j)
    (hj2 : j < run.1 + run.2.1) : tbl (mk (first + j)) = some run.2.2 := by
  obtain ⟨w', hw', he⟩ := h.row_cells hrun hj1 hj2
  rw [hw', (heq w' _ (hdom _ _ hw') (hdom _ _ (h.row_weight hrun))).mp he]

theorem RunsFinal.row_neighbours_ne {k : Nat} {a b : Nat × Nat × W} (ha : rs[k]? = some a) (hb : rs[k + 1]? = some b) :
    (a.1 + a.2.1 < b.1 ∧ tbl (mk (first + (a.1 + a.2.1))) = none) ∨ (a.1 + a.2.1 = b.1 ∧ b.2.2 ≠ a.2.2) := by
  refine (h.row_neighbours ha hb).imp_right fun ⟨h1, h2⟩ => ⟨h1, fun e => ?_⟩
  have hw := hdom _ _ (h.row_weight (List.mem_of_getElem? ha))
  rw [e, (heq _ _ hw hw).mpr rfl] at h2
  cases h2

end

/-! `runTok` and `rowRuns` spell `C17.runToken` and `C17.rowText` a second time; only `C17.rowText_eq` mentions them. -/

def runTok (first : Nat) (mk : Nat → RankPair) (run : Nat × Nat × W) : Token W :=
  let (s, n, w) := run
  if s = 0 ∧ n ≥ 2 then ⟨.bottomClosed (mk (first + n - 1)), w⟩
  else if n = 1 then ⟨.singleRank (mk (first + s)), w⟩
  else ⟨.doubleClosed (mk (first + s)) (first + s + n - 1), w⟩

def rowRuns (wt : WText W) (rps : List (RankPair × W)) (first : Nat) (mk : Nat → RankPair) : List (Token W) :=
  (Spec.runs wt.eq ((List.range' first (13 - first)).map fun k => rpLookup rps (mk k))).map (runTok first mk)

end EspadaVerif.FormatFacts
