/-
Lemmas/IterScope: the iterator of `mkEvaluator flop ranges a b`, for a flop of three distinct valid cards and
ranges of combos of two VALID cards (any order, equal cards allowed: `RV`), over a valid scope.

ONE statement about the run (`run_scope`: the loop performs exactly the raw positions `outsOf` and then stops),
ONE about fuel (`IterLemmas.Halts.drainFuel_spec`) and ONE about the specification (`drainOf_eq_map`: the drain is
`(deals …).map sdOf`); the refinement theorems `C02_refines`, `C02_refines_le`, the explicit drains of C04, the
totality and step count of C08 are read off these.
-/
import EspadaVerif.Lemmas.IterLoop
import EspadaVerif.Lemmas.Decide

namespace EspadaVerif.C04
open Spec EspadaVerif.IterLemmas

variable {W : Type}

/-- `sds` is the complete drain of the evaluator `e`: `into_iter` returns normally, collecting `next()` until
`None` gives `sds` for every limit above its length, and the iterator ends exhausted (this is the drain clause
of `C02.C02_refines`) -/
def IsDrain (ops : WOps W) (e : Evaluator W) (sds : List (Showdown W)) : Prop :=
  ∃ s₀ sEnd : IterState W, e.intoIter = .ok s₀
    ∧ (∀ limit, sds.length < limit → drainFuel ops limit s₀ [] = .ok (sds, sEnd))
    ∧ next ops sEnd = .ok (none, sEnd)

/-- what the drain of an evaluator returns from some limit on is determined -/
theorem drain_unique {ops : WOps W} {e : Evaluator W} {s₀ s₀' sx sy : IterState W} {x y : List (Showdown W)}
    {m n : Nat} (h0 : e.intoIter = .ok s₀) (h0' : e.intoIter = .ok s₀')
    (hx : ∀ limit, m ≤ limit → drainFuel ops limit s₀ [] = .ok (x, sx))
    (hy : ∀ limit, n ≤ limit → drainFuel ops limit s₀' [] = .ok (y, sy)) : x = y := by
  cases Res.ok.inj (h0.symm.trans h0')
  exact (Prod.mk.inj (Res.ok.inj ((hx (max m n) (Nat.le_max_left ..)).symm.trans (hy (max m n) (Nat.le_max_right ..))))).1

/-- a run that stopped before its limit (on `next() = None`) is the drain -/
theorem eq_of_stopped (ops : WOps W) {e : Evaluator W} {s₀ sEnd : IterState W} {limit : Nat}
    {sds x : List (Showdown W)} (h0 : e.intoIter = .ok s₀) (hd : drainFuel ops limit s₀ [] = .ok (sds, sEnd))
    (hl : sds.length < limit) (hx : IsDrain ops e x) : sds = x :=
  let ⟨_, _, h0', hdx, _⟩ := hx
  drain_unique h0 h0' (drainFuel_mono ops limit s₀ [] sds sEnd hd (by simpa using hl)) hdx

theorem IsDrain.unique {ops : WOps W} {e : Evaluator W} {x y : List (Showdown W)}
    (hx : IsDrain ops e x) (hy : IsDrain ops e y) : x = y :=
  let ⟨_, _, h0, hdx, _⟩ := hx
  let ⟨_, _, h0', hdy, _⟩ := hy
  drain_unique h0 h0' hdx hdy

end EspadaVerif.C04

namespace EspadaVerif.IterLemmas
open Spec EspadaVerif.C02

variable {W : Type}

/-- **the run of a scoped iterator.**  From the initial state the loop of `next` performs exactly one non-final
iteration per raw position × choice of the scope (`outsOf`), then reaches a state in which `step` answers
`done`; the number of iterations is below the fuel of `next` (`Halts`).  With an empty range that state is the initial
one (early exit); otherwise it stands at the end `b` of the scope (blocked deals are skipped one by one). -/
theorem run_scope (ops : WOps W) {flop : List Card} {ranges : List (List (Combo × W))} {a b : Nat × Nat}
    (hf : WfFlop flop) (hr : RV ranges) (hs : ValidScope a b) :
    ∃ sEnd : IterState W,
      Halts ops (st flop ranges b a (List.replicate ranges.length 0)) (outsOf ops flop ranges a b) sEnd
      ∧ ((∀ es ∈ ranges, es ≠ []) → sEnd = st flop ranges b b (List.replicate ranges.length 0)) := by
  by_cases hemp : ∃ es ∈ ranges, es = []
  · rw [outsOf_of_empty ops flop a b hemp]
    refine ⟨_, .nil (step_empty ops flop b a _ hemp), fun hne => ?_⟩
    obtain ⟨es, hes, he⟩ := hemp
    exact absurd he (hne es hes)
  · have hne : ∀ es ∈ ranges, es ≠ [] := fun es hes he => hemp ⟨es, hes, he⟩
    refine ⟨_, ⟨run_rows ops hf hr hne hs.to_valid hs.from_valid hs.ordered,
      step_done ops ⟨Nat.le_refl _, Nat.le_refl _⟩, ?_⟩, fun _ => rfl⟩
    -- 1176 positions at most, against a fuel of 65537 per choice
    rw [outsOf_length]
    have h1 := Nat.mul_le_mul_right ((ranges.map List.length).foldl (· * ·) 1) (positionsBetween_length_le a b)
    simp only [fuelFor, st]
    generalize (ranges.map List.length).foldl (· * ·) 1 = P at h1 ⊢
    generalize (positionsBetween a b).length * P = Q at h1 ⊢
    omega

/-- **the drain of a scoped evaluator, explicitly:** the rows `rowOf` of the positions `a ≤ p < b` -/
theorem scope_drain (ops : WOps W) {flop : List Card} {ranges : List (List (Combo × W))} {a b : Nat × Nat}
    (hf : WfFlop flop) (hr : RV ranges) (hs : ValidScope a b) :
    C04.IsDrain ops (mkEvaluator flop ranges a b) (drainOf ops flop ranges a b) := by
  obtain ⟨sEnd, hrun, _⟩ := run_scope ops hf hr hs
  rw [← outsOf_filterMap]
  exact ⟨_, sEnd, intoIter_eq flop ranges a b hf, hrun.drain⟩

theorem scope_total (ops : WOps W) {flop : List Card} {ranges : List (List (Combo × W))} {a b : Nat × Nat}
    (hf : WfFlop flop) (hr : RV ranges) (hs : ValidScope a b) :
    ∃ s₀ : IterState W, (mkEvaluator flop ranges a b).intoIter = .ok s₀ ∧
      ∀ limit, ∃ sds s', drainFuel ops limit s₀ [] = .ok (sds, s') := by
  obtain ⟨sEnd, hrun, _⟩ := run_scope ops hf hr hs
  refine ⟨_, intoIter_eq flop ranges a b hf, fun limit => ?_⟩
  obtain ⟨s', e, _⟩ := hrun.drainFuel_spec limit []
  exact ⟨_, s', e⟩

theorem eq_dealOf_of_mem_deals {flop : List Card} {ranges : List (List (Combo × W))} {a b : Nat × Nat} {d : Deal W}
    (hd : d ∈ deals (flop.map Card.code) (specEntries ranges) a b) :
    ∃ p ∈ positionsBetween a b, ∃ ch ∈ product ranges,
      dealOf flop p ch = d ∧ Deal.legal (flop.map Card.code) (dealOf flop p ch) = true := by
  rw [deals_eq_blocks] at hd
  simp only [List.mem_flatMap, dealsAt_specEntries, List.mem_filter, List.mem_map] at hd
  obtain ⟨p, hp, ⟨ch, hch, rfl⟩, hleg⟩ := hd
  exact ⟨p, hp, ch, hch, rfl, hleg⟩

/-- every deal of the specification really stands for a showdown, `sdOf` of it -/
theorem showdownOfDeal_mem (ops : WOps W) {flop : List Card} {ranges : List (List (Combo × W))} {a b : Nat × Nat}
    (hf : WfFlop flop) (hr : RV ranges) {d : Deal W} (hd : d ∈ deals (flop.map Card.code) (specEntries ranges) a b) :
    showdownOfDeal ops flop d = .ok (some (sdOf ops flop d)) := by
  obtain ⟨p, hp, ch, hch, rfl, hleg⟩ := eq_dealOf_of_mem_deals hd
  exact showdownOfDeal_legal ops hf (mem_positionsBetween hp) (chV_of_product hr hch) hleg

/-- `drainOf_eq_map` in the form in which `C02_refines` states it -/
theorem deals_map_drainOf (ops : WOps W) {flop : List Card} {ranges : List (List (Combo × W))} (a b : Nat × Nat)
    (hf : WfFlop flop) (hr : RV ranges) :
    (deals (flop.map Card.code) (specEntries ranges) a b).map (showdownOfDeal ops flop)
      = (drainOf ops flop ranges a b).map (fun sd => .ok (some sd)) := by
  rw [drainOf_eq_map ops a b hf hr, List.map_map]
  exact List.map_congr_left fun d hd => showdownOfDeal_mem ops hf hr hd

/-- **the refinement theorem**, for combos of two valid cards in any order, equal cards included.  A choice
that contains a combo of two equal cards is not a legal deal (`C08.legal_degenerate`) and the iterator skips it. -/
theorem refines (ops : WOps W) (flop : List Card) (ranges : List (List (Combo × W))) (a b : Nat × Nat)
    (hf : WfFlop flop) (hr : RV ranges) (hs : ValidScope a b) :
    ∃ s₀ : IterState W, (mkEvaluator flop ranges a b).intoIter = .ok s₀ ∧
    ∃ (sds : List (Showdown W)) (sEnd : IterState W),
      (∀ limit, sds.length < limit → drainFuel ops limit s₀ [] = .ok (sds, sEnd))
      ∧ (deals (flop.map Card.code) (specEntries ranges) a b).map (showdownOfDeal ops flop)
          = sds.map (fun sd => .ok (some sd))
      ∧ next ops sEnd = .ok (none, sEnd) := by
  obtain ⟨s₀, sEnd, h0, hd, hn⟩ := scope_drain ops hf hr hs
  exact ⟨s₀, h0, _, sEnd, hd, deals_map_drainOf ops a b hf hr, hn⟩

/-- every legal deal really produces a showdown: its board is the flop followed by turn and river, its players
are the chosen combos in player order, its probability the product of the chosen weights -/
theorem payload (ops : WOps W) (flop : List Card) (ranges : List (List (Combo × W))) (a b : Nat × Nat)
    (hf : WfFlop flop) (hr : RV ranges) (d : Deal W) (hd : d ∈ deals (flop.map Card.code) (specEntries ranges) a b) :
    ∃ sd : Showdown W, showdownOfDeal ops flop d = .ok (some sd)
      ∧ sd.board = flop ++ [Card.ofCode d.turn, Card.ofCode d.river]
      ∧ sd.players.map (·.hole) = d.choice.map (fun c => (⟨Card.ofCode c.1, Card.ofCode c.2.1⟩ : Combo))
      ∧ sd.prob = d.choice.foldl (fun p c => ops.mul p c.2.2) ops.one
      ∧ (flop ++ [Card.ofCode d.turn, Card.ofCode d.river] ++ sd.players.flatMap (fun p => [p.hole.fst, p.hole.snd])).Nodup :=
  ⟨_, showdownOfDeal_mem ops hf hr hd, rfl, sdOf_hole ops flop d, rfl, sdOf_nodup ops (legal_of_mem_deals hd)⟩

end EspadaVerif.IterLemmas

namespace EspadaVerif.C02
open EspadaVerif.IterLemmas Spec

variable {W : Type}

theorem ValidScope.full : ValidScope (0, 1) (48, 49) := by decide

theorem ValidScope.before {a : Nat × Nat} (h : validPos a = true) : ValidScope (0, 1) a :=
  ⟨by decide, h, (validPos_range h).1⟩

theorem ValidScope.after {b : Nat × Nat} (h : validPos b = true) : ValidScope b (48, 49) :=
  ⟨h, by decide, (validPos_range h).2⟩

/-- **chains of scopes.**  Cut points of which every consecutive pair is a valid scope: the intervals between
consecutive cuts concatenate to the interval from the first to the last, which is a valid scope (without cuts:
if `p₀` is a position at all).  `deals`, the drains and the tallies are `flatMap`s over `positionsBetween`, so
their chain theorems are this one under `Lemmas.flatMap_pieces`. -/
theorem ValidScope.chain : ∀ (cuts : List (Nat × Nat)) (p₀ : Nat × Nat),
    (∀ xy ∈ (p₀ :: cuts).zip cuts, ValidScope xy.1 xy.2) →
    ((p₀ :: cuts).zip cuts).flatMap (fun xy => positionsBetween xy.1 xy.2)
        = positionsBetween p₀ ((p₀ :: cuts).getLast (by simp))
      ∧ (validPos p₀ = true → ValidScope p₀ ((p₀ :: cuts).getLast (by simp)))
  | [], p₀, _ => ⟨(positionsBetween_self p₀).symm, fun hv => ⟨hv, hv, posLe_refl p₀⟩⟩
  | c :: cs, p₀, h => by
    have h0 : ValidScope p₀ c := h (p₀, c) (by simp)
    obtain ⟨ih1, ih2⟩ := ValidScope.chain cs c fun xy hxy => h xy (by
      rw [List.zip_cons_cons]
      exact List.mem_cons_of_mem _ hxy)
    have ih2 := ih2 h0.to_valid
    rw [List.getLast_cons_cons, List.zip_cons_cons, List.flatMap_cons, ih1]
    exact ⟨positionsBetween_append h0.ordered ih2.ordered,
      fun hv => ⟨hv, ih2.to_valid, posLe_trans h0.ordered ih2.ordered⟩⟩

theorem WfInput.wfFlop {flop : List Card} {ranges : List (List (Combo × W))} (h : WfInput flop ranges) :
    WfFlop flop := ⟨h.flop_len, h.flop_nodup, h.flop_valid⟩

theorem WfInput.rv {flop : List Card} {ranges : List (List (Combo × W))} (h : WfInput flop ranges) :
    RV ranges := fun es hes => ChWf.toV (h.combos es hes)

/-- `WfInput` asks of the ranges only what holds list by list, and of a list only what holds in any order -/
theorem WfInput.of_mem {flop : List Card} {R R' : List (List (Combo × W))} (h : WfInput flop R)
    (hm : ∀ es' ∈ R', ∃ es ∈ R, es'.Perm es) : WfInput flop R' :=
  ⟨h.flop_len, h.flop_nodup, h.flop_valid,
    fun es' hes' e he => by
      obtain ⟨es, hes, hp⟩ := hm es' hes'
      exact h.combos es hes e (hp.mem_iff.mp he),
    fun es' hes' => by
      obtain ⟨es, hes, hp⟩ := hm es' hes'
      exact (hp.map _).nodup_iff.mpr (h.nodup es hes)⟩

end EspadaVerif.C02
