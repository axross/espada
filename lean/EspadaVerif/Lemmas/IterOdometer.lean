/-
Lemmas/IterOdometer: `Spec.product` (last list fastest) against the per-player counters of the iterator:
`pick` reads the entries under a counter vector, `afterE` lists the choices strictly after it, and the invariant
`Odo L v l` says that `l` is what is still ahead at `v`: all of `product L` at the start vector (`Odo.zero`), one
choice less after each update of `advance` (`Odo.step`).
-/
import EspadaVerif.Model.Iter
import EspadaVerif.Spec.Deals
import EspadaVerif.Lemmas.ListBasics

namespace EspadaVerif.IterLemmas
open Spec

theorem product_map {α β : Type} (f : α → β) (L : List (List α)) :
    product (L.map (List.map f)) = (product L).map (List.map f) := by
  induction L with
  | nil => rfl
  | cons l rest ih =>
    simp only [List.map_cons, product, ih, List.flatMap_map, List.map_flatMap, List.map_map]
    congr 1

theorem foldl_mul_lengths {α : Type} (L : List (List α)) (a : Nat) :
    (L.map List.length).foldl (· * ·) a = a * (product L).length := by
  induction L generalizing a with
  | nil => simp [product]
  | cons l rest ih =>
    simp only [List.map_cons, List.foldl_cons, product]
    rw [ih, Lemmas.length_flatMap_const l _ (product rest).length (fun x _ => by simp), Nat.mul_assoc]

theorem mem_product_cons {α : Type} {l : List α} {rest : List (List α)} {x : α} {xs : List α} :
    x :: xs ∈ product (l :: rest) ↔ x ∈ l ∧ xs ∈ product rest := by
  simp [product]

theorem mem_product_iff {α : Type} (L : List (List α)) (ch : List α) :
    ch ∈ product L ↔ ch.length = L.length ∧ ∀ i (h₁ : i < ch.length) (h₂ : i < L.length), ch[i] ∈ L[i] := by
  induction L generalizing ch with
  | nil => simp [product]
  | cons l rest ih =>
    cases ch with
    | nil => simp [product]
    | cons x xs =>
      rw [mem_product_cons, ih]
      constructor
      · rintro ⟨hx, hl, hm⟩
        exact ⟨congrArg (· + 1) hl, fun
          | 0, _, _ => hx
          | i + 1, h₁, h₂ => hm i (Nat.lt_of_succ_lt_succ h₁) (Nat.lt_of_succ_lt_succ h₂)⟩
      · rintro ⟨hl, hm⟩
        exact ⟨hm 0 (Nat.zero_lt_succ _) (Nat.zero_lt_succ _), Nat.succ.inj hl,
          fun i h₁ h₂ => hm (i + 1) (Nat.succ_lt_succ h₁) (Nat.succ_lt_succ h₂)⟩

theorem mem_of_mem_product {α : Type} {L : List (List α)} {ch : List α} (h : ch ∈ product L) :
    ∀ e ∈ ch, ∃ l ∈ L, e ∈ l := by
  obtain ⟨hl, hm⟩ := (mem_product_iff L ch).mp h
  intro e he
  obtain ⟨i, hi, rfl⟩ := List.getElem_of_mem he
  exact ⟨L[i]'(hl ▸ hi), List.getElem_mem _, hm i hi (hl ▸ hi)⟩

theorem product_hits {α : Type} {L : List (List α)} {ch : List α} (h : ch ∈ product L) :
    ∀ l ∈ L, ∃ e ∈ ch, e ∈ l := by
  obtain ⟨hl, hm⟩ := (mem_product_iff L ch).mp h
  intro l hlL
  obtain ⟨i, hi, rfl⟩ := List.getElem_of_mem hlL
  exact ⟨ch[i]'(hl ▸ hi), List.getElem_mem _, hm i (hl ▸ hi) hi⟩

theorem product_eq_nil {α : Type} (L : List (List α)) (h : ∃ l ∈ L, l = []) : product L = [] := by
  obtain ⟨_, hl, rfl⟩ := h
  refine List.eq_nil_iff_forall_not_mem.mpr fun ch hch => ?_
  obtain ⟨_, _, he⟩ := product_hits hch [] hl
  cases he

theorem product_nodup {α : Type} (L : List (List α)) (h : ∀ l ∈ L, l.Nodup) : (product L).Nodup := by
  induction L with
  | nil => simp [product]
  | cons l rest ih =>
    -- the block of `x` is `x ::` the choices from the rest
    refine Lemmas.nodup_flatMap (h l (by simp)) (fun x _ => Lemmas.nodup_map_on (fun _ _ _ _ e => (List.cons.inj e).2)
      (ih fun l' hl' => h l' (List.mem_cons_of_mem _ hl'))) ?_
    intro x _ x' _ y hy hy'
    obtain ⟨_, _, rfl⟩ := List.mem_map.mp hy
    obtain ⟨_, _, e⟩ := List.mem_map.mp hy'
    exact (List.cons.inj e).1.symm

/-- the entries selected by the counters (what `pickLoop` reads); `none` = out of range -/
def pick {α : Type} : List (List α) → List Nat → Option (List α)
  | [], _ => some []
  | _ :: _, [] => none
  | es :: rest, i :: v =>
    match es[i]?, pick rest v with
    | some x, some xs => some (x :: xs)
    | _, _ => none

/-- the choices strictly after the one selected by the counters, in `product` order -/
def afterE {α : Type} : List (List α) → List Nat → List (List α)
  | [], _ => []
  | _ :: _, [] => []
  | es :: rest, i :: v =>
    match es[i]? with
    | none => []
    | some x => (afterE rest v).map (x :: ·) ++ (es.drop (i + 1)).flatMap fun y => (product rest).map (y :: ·)

theorem pick_cons_some {α : Type} {es : List α} {rest : List (List α)} {i : Nat} {v : List Nat} {ch : List α}
    (h : pick (es :: rest) (i :: v) = some ch) :
    ∃ x xs, es[i]? = some x ∧ pick rest v = some xs ∧ ch = x :: xs := by
  simp only [pick] at h
  split at h
  · next x xs hx hxs => exact ⟨x, xs, hx, hxs, (Option.some.inj h).symm⟩
  · cases h

theorem pick_mem_product {α : Type} : ∀ {L : List (List α)} {v : List Nat} {ch : List α},
    pick L v = some ch → ch ∈ product L
  | [], _, _, h => by cases h; simp [product]
  | _ :: _, [], _, h => nomatch h
  | l :: rest, i :: v, ch, h => by
    obtain ⟨x, xs, hx, hxs, rfl⟩ := pick_cons_some h
    exact mem_product_cons.mpr ⟨List.mem_of_getElem? hx, pick_mem_product hxs⟩

/-- the scan of `advance` for the counter to increment, one player at a time: a later player's counter if one
can be incremented, else this player's -/
theorem incrementable_cons_some {i n k : Nat} {v lens : List Nat} (h : incrementable (i :: v) (n :: lens) = some k) :
    (∃ k', incrementable v lens = some k' ∧ k = k' + 1)
      ∨ (incrementable v lens = none ∧ i + 1 < n ∧ k = 0) := by
  rw [incrementable] at h
  split at h
  · next k' hk' => exact .inl ⟨k', hk', (Option.some.inj h).symm⟩
  · next hn =>
    split at h
    · next hi => exact .inr ⟨hn, hi, (Option.some.inj h).symm⟩
    · cases h

/-- the counter vector after the odometer step of `advance` -/
def bump (v : List Nat) (k : Nat) : List Nat :=
  (v.take k) ++ [v.getD k 0 + 1] ++ List.replicate (v.length - k - 1) 0

theorem bump_succ (i : Nat) (v : List Nat) (k : Nat) : bump (i :: v) (k + 1) = i :: bump v k := by
  simp only [bump, List.take_succ_cons, List.getD_cons_succ, List.length_cons, List.cons_append]
  congr 3
  omega

theorem bump_zero (i : Nat) (v : List Nat) : bump (i :: v) 0 = (i + 1) :: List.replicate v.length 0 := by
  simp [bump]

/-- **the odometer invariant**: there is one counter per list, the counters are in range, and `l` lists the
choices from the one they select (the head of `l`) to the last, in `product` order -/
structure Odo {α : Type} (L : List (List α)) (v : List Nat) (l : List (List α)) : Prop where
  length_eq : v.length = L.length
  ahead : ∃ ch, pick L v = some ch ∧ l = ch :: afterE L v

theorem Odo.ne_nil {α : Type} {L : List (List α)} {v : List Nat} : ¬ Odo L v [] :=
  fun ⟨_, _, _, e⟩ => nomatch e

theorem Odo.pick_eq {α : Type} {L : List (List α)} {v : List Nat} {ch : List α} {rest : List (List α)}
    (h : Odo L v (ch :: rest)) : pick L v = some ch := by
  obtain ⟨_, _, hp, e⟩ := h
  cases e
  exact hp

/-- while the later players stand at their first choice, the first player's counter `j` has ahead of it (itself
included) the product with the first list cut at `j` -/
theorem Odo.cons {α : Type} {l : List α} {R : List (List α)} {z : List Nat} (h : Odo R z (product R)) {j : Nat}
    (hj : j < l.length) : Odo (l :: R) (j :: z) (product (l.drop j :: R)) := by
  obtain ⟨hlen, ch₀, hp, hprod⟩ := h
  have hx := List.getElem?_eq_getElem hj
  refine ⟨congrArg (· + 1) hlen, l[j] :: ch₀, by simp [pick, hx, hp], ?_⟩
  rw [List.drop_eq_getElem_cons hj]
  simp only [product, afterE, hx, List.flatMap_cons, hprod, List.map_cons, List.cons_append]

/-- the start vector has all of `product` ahead -/
theorem Odo.zero {α : Type} (L : List (List α)) (hne : ∀ l ∈ L, l ≠ []) :
    Odo L (List.replicate L.length 0) (product L) := by
  induction L with
  | nil => exact ⟨rfl, [], rfl, rfl⟩
  | cons l R ih =>
    exact (ih fun l' hl' => hne l' (List.mem_cons_of_mem _ hl')).cons (List.length_pos_iff.mpr (hne l (by simp)))

/-- the odometer step of `advance`: when no counter can be incremented the current choice is the last one;
otherwise the updated vector selects the next choice -/
theorem Odo.step {α : Type} {L : List (List α)} (hne : ∀ l ∈ L, l ≠ []) {v : List Nat} {ch : List α}
    {rest : List (List α)} (h : Odo L v (ch :: rest)) :
    match incrementable v (L.map List.length) with
    | none => rest = []
    | some k => Odo L (bump v k) rest := by
  obtain ⟨hlen, _, hp, e⟩ := h
  obtain ⟨rfl, rfl⟩ := List.cons.inj e
  clear e
  induction L generalizing v ch with
  | nil =>
    match v, hlen with
    | [], _ => rfl
  | cons l R ih =>
    match v, hlen with
    | i :: v, hlen =>
      obtain ⟨x, xs, hx, hxs, rfl⟩ := pick_cons_some hp
      have hne' : ∀ l' ∈ R, l' ≠ [] := fun l' hl' => hne l' (List.mem_cons_of_mem _ hl')
      have hlen' : v.length = R.length := Nat.succ.inj hlen
      have ih := ih hne' hlen' hxs
      rw [List.map_cons, incrementable]
      cases hinc : incrementable v (R.map List.length) with
      | some k =>
        rw [hinc] at ih
        obtain ⟨hl, ch', hp', ha'⟩ := ih
        show Odo (l :: R) (bump (i :: v) (k + 1)) _
        rw [bump_succ]
        exact ⟨congrArg (· + 1) hl, x :: ch', by simp [pick, hx, hp'],
          by simp only [afterE, hx, ha', List.map_cons, List.cons_append]⟩
      | none =>
        -- the later players are at their last choice …
        rw [hinc] at ih
        have e : afterE (l :: R) (i :: v) = product (l.drop (i + 1) :: R) := by
          simp only [afterE, hx, ih, List.map_nil, List.nil_append]
          rfl
        rw [e]
        by_cases hi : i + 1 < l.length
        · -- … and start again
          rw [if_pos hi]
          show Odo (l :: R) (bump (i :: v) 0) _
          rw [bump_zero, hlen']
          exact (Odo.zero R hne').cons hi
        · rw [if_neg hi, List.drop_eq_nil_of_le (Nat.le_of_not_lt hi)]
          rfl

end EspadaVerif.IterLemmas
