/-
Lemmas/TokenSimp: the simp set `token_slices` (filled in `Lemmas/AsciiSlices`), which evaluates the slices of
`Card::from_str`, `CardPair::from_str` and of a branch of `HandRangeToken::from_str` on a text given as
`b₀ :: b₁ :: … :: rest`.  A module of its own: Lean does not let an attribute be used in the file that registers it.
-/
import Lean.Meta.Tactic.Simp.RegisterCommand
import Lean.Meta.Tactic.Simp.BuiltinSimprocs.Nat

/-- reading a byte of `b₀ :: b₁ :: … :: rest` at a literal position, and the tests a recogniser leaves behind -/
register_simp_attr token_slices
