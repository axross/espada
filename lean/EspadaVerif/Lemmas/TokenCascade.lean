/-
Lemmas/TokenCascade: the seven patterns of `HandRangeToken::from_str` are pairwise disjoint, so the cascade is the one
branch whose pattern can match the input (`parseToken_eq_branch`) and the order of the branches does not matter.  From
that one equation: a text that parses has one of the seven shapes and its branch hit (`shape_of_parse`), and conversely
(`parseToken_of_hit`); `parseToken` never panics and what it returns is well formed (`parseToken_ok`); each of the seven
shapes of token text, followed by a weight suffix, parses to its token (shared by C05 and C06).
-/
import EspadaVerif.Lemmas.TokenFacts

namespace EspadaVerif.TokenFacts
open TextDefs

variable {W : Type}

/-- the index (source order) of the only pattern that can match `s`: the second byte is a suit letter only in a card
pair; otherwise the byte after the two rank letters, and after an `s`/`o` the byte after that, tell the rest apart -/
def patternOf (s : Bytes) : Nat :=
  match s with
  | _ :: y :: rest =>
    if isSuitByte y then 6 else
    match rest with
    | 45 :: _ => 0
    | 43 :: _ => 2
    | x :: rest' =>
      if isSoByte x then (match rest' with | 45 :: _ => 1 | 43 :: _ => 3 | _ => 5) else 4
    | [] => 4
  | _ => 7

theorem isSoByte_ne {x : Nat} (hx : isSoByte x = true) : x ≠ 45 ∧ x ≠ 43 ∧ x ≠ 58 := by
  rcases (isSoByte_iff x).mp hx with e | e <;> omega

theorem Shape.pattern {i : Nat} {s : Bytes} (h : Shape i s) : patternOf s = i := by
  cases h with
  | doublePocket _ hb | bottomPocket _ hb => simp [patternOf, rankChar_not_suit hb]
  | doubleRankPair _ hb hx | bottomRankPair _ hb hx => simp [patternOf, rankChar_not_suit hb, hx, isSoByte_ne hx]
  | singlePocket _ hb hs =>
    rcases (isWeightSuffix_iff _).mp hs with rfl | ⟨w, rfl, -⟩ <;> simp [patternOf, rankChar_not_suit hb, isSoByte]
  | singleRankPair _ hb hx hs =>
    rcases (isWeightSuffix_iff _).mp hs with rfl | ⟨w, rfl, -⟩ <;>
      simp [patternOf, rankChar_not_suit hb, hx, isSoByte_ne hx]
  | singleCardPair hl => simp [patternOf, showCard, isSuitByte_suitChar ((Card.valid_iff _).mp hl).2]

/-- what `from_str` returns when a branch is the last word: a hit is the token, falling through is `Err(())` -/
def Branch.res : Branch W → Res (Token W)
  | .hit t => .ok t
  | .next => .err
  | .panic => .panic

theorem go_unique (s : Bytes) (bs : List (Bytes → Branch W)) (i : Nat)
    (h : ∀ j b, bs[j]? = some b → j ≠ i → b s = .next) :
    parseToken.go s bs = match bs[i]? with | some b => Branch.res (b s) | none => .err := by
  induction bs generalizing i with
  | nil => rfl
  | cons b bs ih =>
    cases i with
    | zero =>
      -- the tail is searched at an index past its end, where `bs[·]?` is `none`: every branch of it falls through
      have hrest : parseToken.go s bs = .err := by
        rw [ih bs.length (fun j b' hb' hj => h (j + 1) b' hb' (by omega))]
        simp
      simp only [parseToken.go, List.getElem?_cons_zero]
      cases b s <;> simp [Branch.res, hrest]
    | succ i =>
      simp only [parseToken.go, h 0 b rfl (by omega), List.getElem?_cons_succ]
      exact ih i (fun j b' hb' hj => h (j + 1) b' hb' (by omega))

/-- **`from_str` is the branch of the pattern that can match** -/
theorem parseToken_eq_branch (wt : WText W) (s : Bytes) :
    parseToken wt s = match (cascade wt)[patternOf s]? with
      | some p => Branch.res (p.2 s) | none => .err := by
  rw [parseToken_eq_go, go_unique s _ (patternOf s), List.getElem?_map]
  · cases (cascade wt)[patternOf s]? <;> rfl
  · intro j b hb hj
    rw [List.getElem?_map] at hb
    obtain ⟨p, hp, rfl⟩ := Option.map_eq_some_iff.mp hb
    exact next_of_re_false (List.mem_of_getElem? hp) (Bool.eq_false_iff.mpr fun h => hj (shape_of_re hp h).pattern.symm)

theorem Branch.res_eq_ok {b : Branch W} {t : Token W} : Branch.res b = .ok t ↔ b = .hit t := by
  cases b <;> simp [Branch.res]

/-- `from_str` on any text: `Err(())`, unless the text has the shape of a pattern; then the branch of that pattern is
the last word -/
theorem parseToken_cases (wt : WText W) (s : Bytes) :
    parseToken wt s = .err
      ∨ ∃ i p, Shape i s ∧ (cascade wt)[i]? = some p ∧ parseToken wt s = Branch.res (p.2 s) := by
  rw [parseToken_eq_branch]
  cases hp : (cascade wt)[patternOf s]? with
  | none => exact .inl rfl
  | some p =>
    cases hre : p.1 s with
    | false => exact .inl (congrArg Branch.res (next_of_re_false (List.mem_of_getElem? hp) hre))
    | true => exact .inr ⟨_, p, shape_of_re hp hre, hp, rfl⟩

/-- **a text that parses has the shape of one of the seven patterns, and the branch of that pattern hit** -/
theorem shape_of_parse (wt : WText W) {s : Bytes} {t : Token W} (h : parseToken wt s = .ok t) :
    ∃ i p, Shape i s ∧ (cascade wt)[i]? = some p ∧ p.2 s = .hit t := by
  rcases parseToken_cases wt s with e | ⟨i, p, sh, hp, e⟩
  · rw [e] at h; cases h
  · exact ⟨i, p, sh, hp, Branch.res_eq_ok.mp (e ▸ h)⟩

/-- conversely, **the order of the branches does not matter**: a branch that hits has matched its pattern, so it is the
branch at `patternOf s` -/
theorem parseToken_of_hit (wt : WText W) (i : Nat) {re : Bytes → Bool} {br : Bytes → Branch W}
    (hi : (cascade wt)[i]? = some (re, br)) {s : Bytes} {t : Token W} (h : br s = .hit t) : parseToken wt s = .ok t := by
  rw [parseToken_eq_branch, (shape_of_re hi (re_true_of_hit (List.mem_of_getElem? hi) h)).pattern, hi]
  exact Branch.res_eq_ok.mpr h

/-- the closed forms of the branches all have this shape -/
theorem res_ite_ok (wt : WText W) {b : Branch W} {c : Prop} [Decidable c] {kind : TokenKind} {rest : Bytes}
    (e : b = if c then .hit ⟨kind, sufW wt rest⟩ else .next) (hs : isWeightSuffix rest = true)
    (hk : c → TokenOk kind) :
    Branch.res b = .err ∨ ∃ kind rest, Branch.res b = .ok ⟨kind, sufW wt rest⟩ ∧ TokenOk kind
      ∧ isWeightSuffix rest = true := by
  subst e
  split
  · next h => exact .inr ⟨kind, rest, rfl, hk h, hs⟩
  · exact .inl rfl

/-- **`from_str` never panics, and a token it returns is well formed** -/
theorem parseToken_ok (wt : WText W) (s : Bytes) :
    parseToken wt s = .err ∨ ∃ kind rest, parseToken wt s = .ok ⟨kind, sufW wt rest⟩ ∧ TokenOk kind
      ∧ isWeightSuffix rest = true := by
  rcases parseToken_cases wt s with e | ⟨i, p, sh, hp, e⟩
  · exact .inl e
  rw [e]
  -- the pattern fixes the shape of the text, on which the branch is in closed form
  cases sh with
  | doublePocket ha hb hc hd hs =>
    cases hp; exact res_ite_ok wt (brDoublePocket_eq wt ha hb hc hd hs) hs fun h => ⟨h.2.2, hc⟩
  | doubleRankPair ha hb hx hc hd hy hs =>
    cases hp; exact res_ite_ok wt (brDoubleRankPair_eq wt ha hb hx hc hd hy hs) hs fun h =>
      tokenOk_doubleClosed_soPair.mpr ⟨h.2.2.1, h.2.2.2, hd⟩
  | bottomPocket ha hb hs => cases hp; exact res_ite_ok wt (brBottomPocket_eq wt ha hb hs) hs fun _ => ha
  | bottomRankPair ha hb hx hs =>
    cases hp; exact res_ite_ok wt (brBottomRankPair_eq wt ha hb hx hs) hs fun h =>
      tokenOk_bottomClosed_soPair.mpr ⟨h, hb⟩
  | singlePocket ha hb hs => cases hp; exact res_ite_ok wt (brSinglePocket_eq wt ha hb hs) hs fun _ => ha
  | singleRankPair ha hb hx hs =>
    cases hp; exact res_ite_ok wt (brSingleRankPair_eq wt ha hb hx hs) hs fun h =>
      tokenOk_singleRank_soPair.mpr ⟨h, ha, hb⟩
  | singleCardPair hl hr hs =>
    cases hp; exact res_ite_ok wt (brSingleCardPair_eq wt hl hr hs) hs fun h => ⟨_, _, hl, hr, h, rfl⟩

theorem parseToken_ne_panic (wt : WText W) (s : Bytes) : parseToken wt s ≠ .panic := by
  rcases parseToken_ok wt s with h | ⟨_, _, h, _⟩ <;> rw [h] <;> exact fun e => nomatch e

theorem parseToken_tokenOk (wt : WText W) (s : Bytes) (t : Token W) (h : parseToken wt s = .ok t) :
    TokenOk t.kind ∧ ∃ rest, isWeightSuffix rest = true ∧ t.prob = sufW wt rest := by
  rcases parseToken_ok wt s with h' | ⟨kind, rest, h', hk, hs⟩
  · rw [h'] at h; cases h
  · rw [h'] at h; cases h; exact ⟨hk, rest, hs, rfl⟩

theorem expand_parsed (wt : WText W) {piece : Bytes} {tok : Token W} {es : List (Combo × W)}
    (h : parseToken wt piece = .ok tok) (he : tok.expand = .ok es) : ∀ e ∈ es, ComboOk e.1 ∧ e.2 = tok.prob := by
  obtain ⟨es', hes', hall⟩ := expand_ok tok (parseToken_tokenOk wt piece tok h).1
  rw [he] at hes'; cases hes'
  exact hall

section texts
variable (wt : WText W)

theorem parse_doublePocket {top bottom : Nat} (h1 : top ≤ bottom) (h2 : bottom < 13)
    {suffix : Bytes} (hs : isWeightSuffix suffix = true) :
    parseToken wt (rankChar top :: rankChar top :: 45 :: rankChar bottom :: rankChar bottom :: suffix)
      = .ok ⟨.doubleClosed (.pocket top) bottom, sufW wt suffix⟩ := by
  have ht : top < 13 := by omega
  exact parseToken_of_hit wt 0 rfl
    (by rw [brDoublePocket_eq wt ht ht h2 h2 hs, if_pos ⟨rfl, rfl, h1⟩])

theorem parse_doubleSo (x : Nat) (hx : isSoByte x = true) {h kt kb : Nat} (h1 : h < kt) (h2 : kt < kb)
    (h3 : kb < 13) {suffix : Bytes} (hs : isWeightSuffix suffix = true) :
    parseToken wt (rankChar h :: rankChar kt :: x :: 45 :: rankChar h :: rankChar kb :: x :: suffix)
      = .ok ⟨.doubleClosed (soPair x h kt) kb, sufW wt suffix⟩ := by
  have hh : h < 13 := by omega
  exact parseToken_of_hit wt 1 rfl
    (by rw [brDoubleRankPair_eq wt hh (show kt < 13 by omega) hx hh h3 hx hs, if_pos ⟨rfl, rfl, h1, h2⟩])

theorem parse_bottomPocket {r : Nat} (hr : r < 13) {suffix : Bytes} (hs : isWeightSuffix suffix = true) :
    parseToken wt (rankChar r :: rankChar r :: 43 :: suffix) = .ok ⟨.bottomClosed (.pocket r), sufW wt suffix⟩ :=
  parseToken_of_hit wt 2 rfl (by rw [brBottomPocket_eq wt hr hr hs, if_pos rfl])

theorem parse_bottomSo (x : Nat) (hx : isSoByte x = true) {h k : Nat} (h1 : h < k) (h2 : k < 13)
    {suffix : Bytes} (hs : isWeightSuffix suffix = true) :
    parseToken wt (rankChar h :: rankChar k :: x :: 43 :: suffix)
      = .ok ⟨.bottomClosed (soPair x h k), sufW wt suffix⟩ :=
  parseToken_of_hit wt 3 rfl (by rw [brBottomRankPair_eq wt (show h < 13 by omega) h2 hx hs, if_pos h1])

theorem parse_singlePocket {r : Nat} (hr : r < 13) {suffix : Bytes} (hs : isWeightSuffix suffix = true) :
    parseToken wt (rankChar r :: rankChar r :: suffix) = .ok ⟨.singleRank (.pocket r), sufW wt suffix⟩ :=
  parseToken_of_hit wt 4 rfl (by rw [brSinglePocket_eq wt hr hr hs, if_pos rfl])

theorem parse_singleSo (x : Nat) (hx : isSoByte x = true) {a b : Nat} (h1 : a ≠ b) (h2 : a < 13)
    (h3 : b < 13) {suffix : Bytes} (hs : isWeightSuffix suffix = true) :
    parseToken wt (rankChar a :: rankChar b :: x :: suffix) = .ok ⟨.singleRank (soPair x a b), sufW wt suffix⟩ :=
  parseToken_of_hit wt 5 rfl (by rw [brSingleRankPair_eq wt h2 h3 hx hs, if_pos h1])

theorem parse_cards {l r : Card} (hl : l.valid = true) (hr : r.valid = true) (hne : l ≠ r)
    {suffix : Bytes} (hs : isWeightSuffix suffix = true) :
    parseToken wt (showCard l ++ showCard r ++ suffix) = .ok ⟨.singleCard (mkPair l r), sufW wt suffix⟩ :=
  parseToken_of_hit wt 6 rfl (by rw [brSingleCardPair_eq wt hl hr hs, if_pos hne])

end texts

end EspadaVerif.TokenFacts
