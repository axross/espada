/-
C10 — Every parsed range holds only real combos with weights between 0 and 1.
-/
import EspadaVerif.Lemmas.TextDefs
import EspadaVerif.Lemmas.RangeAux
import EspadaVerif.Props.C02

namespace EspadaVerif.C10
open TextDefs TokenFacts RangeAux

variable {W : Type}

/-- **C10 (combos).** Whatever string is parsed as a range, every entry is a combo of two different valid cards
(stored in canonical order). -/
theorem C10_combo (wt : WText W) (s : Bytes) (r : HandRange W) (h : parseRange wt s = .ok r) :
    ∀ e ∈ r, ComboOk e.1 :=
  parseRange_comboOk wt s r h

/-- **C10 (weights).** Every weight of a parsed token / range lies in the weight domain (= [0,1]), given only that
the weight grammar's texts parse into the domain, that 1 is in it, and that the empty text is not a number
(`hempty`: a token without `:w` suffix reaches `f32::from_str("")`, which must fail for the weight to be 1). -/
theorem C10_weight_token (wt : WText W) (inDom : W → Prop) (hone : inDom wt.one)
    (hparse : ∀ t w, isWeightText t = true → wt.parseW t = some w → inDom w)
    (hempty : wt.parseW [] = none)
    (s : Bytes) (t : Token W) (h : parseToken wt s = .ok t) : inDom t.prob := by
  obtain ⟨_, rest, hs, hp⟩ := parseToken_tokenOk wt s t h
  rw [hp]
  rcases (isWeightSuffix_iff rest).mp hs with rfl | ⟨w, rfl, hw⟩
  · rw [sufW_nil, hempty]; exact hone
  · rw [sufW_colon]
    cases hx : wt.parseW w with
    | none => exact hone
    | some x => exact hparse w x hw hx

theorem C10_weight (wt : WText W) (inDom : W → Prop) (hone : inDom wt.one)
    (hparse : ∀ t w, isWeightText t = true → wt.parseW t = some w → inDom w)
    (hempty : wt.parseW [] = none)
    (s : Bytes) (r : HandRange W) (h : parseRange wt s = .ok r) : ∀ e ∈ r, inDom e.2 := by
  intro e he
  obtain ⟨piece, -, tok, ht, -, hw⟩ := mem_parseRange wt h he
  rw [hw]
  exact C10_weight_token wt inDom hone hparse hempty piece tok ht

/-- the weight grammar admits exactly `0`, `0.d+`, `1`, `1.0+` -/
theorem C10_grammar (t : Bytes) : isWeightText t = true ↔
    (t = [48] ∨ (∃ ds, ds ≠ [] ∧ (∀ d ∈ ds, 48 ≤ d ∧ d ≤ 57) ∧ t = 48 :: 46 :: ds)
     ∨ t = [49] ∨ (∃ zs, zs ≠ [] ∧ (∀ z ∈ zs, z = 48) ∧ t = 49 :: 46 :: zs)) := by
  -- the grammar's `ds ≠ []` is the definition's `d :: ds`
  unfold isWeightText
  split <;> simp_all [isDigit, List.ne_nil_iff_exists_cons]

/-- **C10 (probabilities).** A product, taken left to right from 1, of weights of the domain stays in the domain,
for every product under which the domain is closed (binary32 multiplication on [0,1] is: rounding is
monotone and fixes 0 and 1). -/
theorem C10_prob (ops : WOps W) (inDom : W → Prop) (hone : inDom ops.one)
    (hmul : ∀ a b, inDom a → inDom b → inDom (ops.mul a b)) (ws : List W) (h : ∀ w ∈ ws, inDom w) :
    inDom (ws.foldl ops.mul ops.one) :=
  List.foldlRecOn ws ops.mul hone fun acc ha w hw => hmul acc w ha (h w hw)

/-- **C10 (cards).** No showdown enumerated from proper ranges (in particular parsed ones, by `C10_combo`)
contains the same card twice: this is `C02_payload`. -/
theorem C10_cards (ops : WOps W) (flop : List Card) (ranges : List (List (Combo × W))) (a b : Nat × Nat)
    (h : C02.WfInput flop ranges) (d : Spec.Deal W)
    (hd : d ∈ Spec.deals (flop.map Card.code) (C02.specEntries ranges) a b) :
    ∃ sd : Showdown W, C02.showdownOfDeal ops flop d = .ok (some sd)
      ∧ (sd.board ++ sd.players.flatMap (fun p => [p.hole.fst, p.hole.snd])).Nodup := by
  obtain ⟨sd, h1, h2, _, _, h5⟩ := C02.C02_payload ops flop ranges a b h d hd
  exact ⟨sd, h1, by rw [h2]; exact h5⟩

/-- the closure hypothesis of `C10_prob` holds for every rounded product `rnd (a * b)` over the rationals whose
rounding is monotone and fixes 0 and 1 — which is what IEEE-754 round-to-nearest is on binary32 -/
theorem C10_prob_rounding (rnd : Rat → Rat) (hmono : ∀ x y, x ≤ y → rnd x ≤ rnd y) (h0 : rnd 0 = 0) (h1 : rnd 1 = 1)
    (a b : Rat) (ha : 0 ≤ a ∧ a ≤ 1) (hb : 0 ≤ b ∧ b ≤ 1) : 0 ≤ rnd (a * b) ∧ rnd (a * b) ≤ 1 := by
  have hab1 : a * b ≤ 1 :=
    Rat.le_trans (Rat.mul_le_mul_of_nonneg_left hb.2 ha.1) (by rw [Rat.mul_one]; exact ha.2)
  exact ⟨h0 ▸ hmono 0 (a * b) (Rat.mul_nonneg ha.1 hb.1), h1 ▸ hmono (a * b) 1 hab1⟩

end EspadaVerif.C10
