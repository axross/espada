/-
C13 (continued) — ranges on every ordered endpoint pair (`rank_range_run` / `suit_range_run` of Props/C13 assume
`a ≤ b`), from `rankRange_slice` / `suitRange_slice`; and all 52 card texts, the 13 + 4 single letters and the
acceptance set of `Card::from_str` on two-byte texts against the vocabulary of `Spec/Cards.lean`, which is written down
independently of `Gen` ("AKQJT98765432", "shdc"): the generated tables are the vocabulary's, entry for entry.
-/
import EspadaVerif.Props.C13
import EspadaVerif.Spec.Cards

namespace EspadaVerif.C13
open Gen

/-! The model (`sliceTbl`, Model/Card.lean) panics exactly where the Rust slice expressions of `IntoIterator for
RankRange` / `SuitRange` (src/card/rank_range.rs, suit_range.rs) do: `RANKS[a..b]` panics iff `a > b` or `b > 13`;
`RANKS[a..=b]` panics iff `b = usize::MAX`, `a > b + 1` or `b + 1 > 13` — with `b ≤ 12` (every `u8::from(Rank)`) this
is `a > b` resp. `a > b + 1`, and `RANKS[b+1..=b]` is the empty slice. -/

/-- **all ordered endpoint pairs of a rank range.**  With `e` the exclusive end (`b` for `new`, `b + 1`
for `inclusive`): the range is the contiguous run `a, a+1, …, e-1` (`Spec.run`) when `a ≤ e`, and a
panic otherwise. -/
theorem rank_range_total (a b : Nat) (ha : a < 13) (hb : b < 13) (incl : Bool) :
    rankRange a b incl
      = if a ≤ (if incl then b + 1 else b) then .ok (Spec.run a b incl) else .panic :=
  rankRange_slice a b ha hb incl

theorem suit_range_total (a b : Nat) (ha : a < 4) (hb : b < 4) (incl : Bool) :
    suitRange a b incl
      = if a ≤ (if incl then b + 1 else b) then .ok (Spec.run a b incl) else .panic :=
  suitRange_slice a b ha hb incl

/-- the run of the total characterisation, spelled out: `a, a+1, …` up to (but excluding) the end -/
theorem run_mem (a b : Nat) (incl : Bool) (x : Nat) :
    x ∈ Spec.run a b incl ↔ a ≤ x ∧ x < (if incl then b + 1 else b) := by
  simp only [Spec.run, List.mem_range'_1]
  cases incl <;> simp <;> omega

/-- a range never panics on `a ≤ b`, and on `a > b` only `inclusive(b + 1, b)` survives -/
theorem rank_range_panic_iff (a b : Nat) (ha : a < 13) (hb : b < 13) (incl : Bool) :
    rankRange a b incl = .panic ↔ (if incl then b + 1 else b) < a := by
  rw [rank_range_total a b ha hb incl]
  split <;> simp <;> omega

theorem suit_range_panic_iff (a b : Nat) (ha : a < 4) (hb : b < 4) (incl : Bool) :
    suitRange a b incl = .panic ↔ (if incl then b + 1 else b) < a := by
  rw [suit_range_total a b ha hb incl]
  split <;> simp <;> omega

/-- `RankRange::new(a, b)` with `a` after `b`: the slice `RANKS[a..b]` panics -/
theorem rank_range_excl_panics (a b : Nat) (ha : a < 13) (hb : b < 13) (hab : a > b) :
    rankRange a b false = .panic :=
  (rank_range_panic_iff a b ha hb false).mpr hab

/-- `RankRange::inclusive(a, b)` with `a` more than one step after `b`: `RANKS[a..=b]` panics -/
theorem rank_range_incl_panics (a b : Nat) (ha : a < 13) (hb : b < 13) (hab : a > b + 1) :
    rankRange a b true = .panic :=
  (rank_range_panic_iff a b ha hb true).mpr hab

/-- `RankRange::inclusive(b + 1, b)`: `RANKS[b+1..=b]` is the empty slice, not a panic -/
theorem rank_range_incl_empty (b : Nat) (hb : b + 1 < 13) : rankRange (b + 1) b true = .ok [] := by
  rw [rank_range_total (b + 1) b hb (by omega)]
  simp [Spec.run]

theorem suit_range_excl_panics (a b : Nat) (ha : a < 4) (hb : b < 4) (hab : a > b) :
    suitRange a b false = .panic :=
  (suit_range_panic_iff a b ha hb false).mpr hab

theorem suit_range_incl_panics (a b : Nat) (ha : a < 4) (hb : b < 4) (hab : a > b + 1) :
    suitRange a b true = .panic :=
  (suit_range_panic_iff a b ha hb true).mpr hab

theorem suit_range_incl_empty (b : Nat) (hb : b + 1 < 4) : suitRange (b + 1) b true = .ok [] := by
  rw [suit_range_total (b + 1) b hb (by omega)]
  simp [Spec.run]

/-- non-vacuity: `RankRange::new(Six, Jack)` panics, `inclusive(Ten, Jack)` is empty,
`inclusive(Nine, Jack)` panics, `inclusive(Jack, Six)` is J T 9 8 7 6; same for suits -/
example : rankRange 8 3 false = .panic ∧ rankRange 4 3 true = .ok [] ∧ rankRange 5 3 true = .panic
    ∧ rankRange 3 8 true = .ok [3, 4, 5, 6, 7, 8] ∧ rankRange 3 3 false = .ok [] :=
  ⟨rank_range_excl_panics 8 3 (by decide) (by decide) (by decide),
   rank_range_incl_empty 3 (by decide),
   rank_range_incl_panics 5 3 (by decide) (by decide) (by decide),
   by rw [rank_range_total 3 8 (by decide) (by decide)]; decide,
   by rw [rank_range_total 3 3 (by decide) (by decide)]; decide⟩

example : suitRange 3 1 false = .panic ∧ suitRange 2 1 true = .ok [] ∧ suitRange 3 1 true = .panic
    ∧ suitRange 1 3 true = .ok [1, 2, 3] :=
  ⟨suit_range_excl_panics 3 1 (by decide) (by decide) (by decide),
   suit_range_incl_empty 1 (by decide),
   suit_range_incl_panics 3 1 (by decide) (by decide) (by decide),
   by rw [suit_range_total 1 3 (by decide) (by decide)]; decide⟩

/-- `char::from(&Rank)` / `char::from(&Suit)`: the letters in declaration order are "AKQJT98765432" / "shdc" -/
theorem rank_chars_list : (List.range 13).map rankChar = Spec.rankChars
    ∧ (List.range 4).map suitChar = Spec.suitChars := by decide

/-- a `match` whose arms send the letters of `l`, in order, to `n, n+1, …` finds the position of the letter in `l` -/
theorem armLookup_zipIdx (l : List Nat) (n b : Nat) : armLookup (l.zipIdx n) b = (l.idxOf? b).map (· + n) := by
  induction l generalizing n with
  | nil => rfl
  | cons a l ih =>
    rw [List.zipIdx_cons, armLookup, ih, List.idxOf?_cons]
    by_cases h : a = b
    · simp [h]
    · simp [h, Option.map_map, Function.comp_def, Nat.add_assoc, Nat.add_comm 1]

/-- `Rank::try_from(&char)`: the position of the char in "AKQJT98765432", if any -/
theorem rank_of_char_spec (b : Nat) : rankOfChar b = Spec.rankChars.idxOf? b := by
  rw [rankOfChar, (by decide : rankOfCharArms = Spec.rankChars.zipIdx), armLookup_zipIdx]
  simp

/-- `Suit::try_from(&char)`: the position of the char in "shdc", if any -/
theorem suit_of_char_spec (b : Nat) : suitOfChar b = Spec.suitChars.idxOf? b := by
  rw [suitOfChar, (by decide : suitOfCharArms = Spec.suitChars.zipIdx), armLookup_zipIdx]
  simp

/-- the text of the card with wire code `n` is the standard one: the letter tables are the vocabulary's, entry for entry -/
theorem showCard_ofCode (n : Nat) : showCard (Card.ofCode n) = Spec.cardText n := rfl

/-- all 52 card texts are the standard ones: rank letter from "AKQJT98765432", suit letter from "shdc" -/
theorem card_text_spec : ∀ c ∈ allCards, showCard c = Spec.cardText c.code := by
  intro c hc
  obtain ⟨n, -, rfl⟩ := List.mem_map.mp hc
  rw [Card.code_ofCode, showCard_ofCode]

theorem card_texts_list : allCards.map showCard = (List.range 52).map Spec.cardText :=
  List.map_map.trans (List.map_congr_left fun n _ => showCard_ofCode n)

/-- `Card::from_str` on every two-byte ASCII text: exactly the 52 standard texts are accepted, each
as the right card; everything else is an error (never a panic). -/
theorem parse_card_spec (b₁ b₂ : Nat) (h₁ : b₁ < 128) (h₂ : b₂ < 128) :
    parseCard [b₁, b₂] = (match Spec.cardOfText [b₁, b₂] with
      | some n => .ok (Card.ofCode n)
      | none => .err) := by
  rw [parseCard_two b₁ b₂ h₁ h₂]
  simp only [Spec.cardOfText, ← rank_of_char_spec, ← suit_of_char_spec]
  cases hr : rankOfChar b₁ <;> cases hs : suitOfChar b₂ <;> simp only []
  rename_i r s
  have hs4 := (suitOfChar_some hs).2.1
  congr 1
  simp only [Card.ofCode, Card.mk.injEq]
  omega

/-- the same without the ASCII hypothesis: a two-byte text with a byte `≥ 128` (one two-byte UTF-8
char) is an error on both sides — `Card::from_str` tests `is_ascii` before slicing (the D6 fix), and no
standard letter is `≥ 128`. -/
theorem parse_card_spec_all (b₁ b₂ : Nat) :
    parseCard [b₁, b₂] = (match Spec.cardOfText [b₁, b₂] with
      | some n => .ok (Card.ofCode n)
      | none => .err) := by
  by_cases h : b₁ < 128 ∧ b₂ < 128
  · exact parse_card_spec b₁ b₂ h.1 h.2
  · have herr : parseCard [b₁, b₂] = .err := by
      simp only [parseCard, isAscii, List.all_cons, List.all_nil, Bool.and_true, Bool.and_eq_true, decide_eq_true_eq]
      rw [if_neg fun e => h e.2]
    rw [herr]
    simp only [Spec.cardOfText, ← rank_of_char_spec, ← suit_of_char_spec]
    cases hr : rankOfChar b₁ <;> cases hs : suitOfChar b₂ <;> try rfl
    exact absurd ⟨(rankOfChar_some hr).1, (suitOfChar_some hs).1⟩ h

/-- the code returned by the specification's reader is a wire code `< 52` whose text is the input -/
theorem cardOfText_code (b₁ b₂ n : Nat) (h₁ : b₁ < 128) (h₂ : b₂ < 128)
    (e : Spec.cardOfText [b₁, b₂] = some n) : n < 52 ∧ Spec.cardText n = [b₁, b₂] := by
  -- the crate accepts the text as the card `Card.ofCode n` (`parse_card_spec`), and what it accepts is a card's own text
  have hp := parse_card_spec b₁ b₂ h₁ h₂
  rw [e] at hp
  obtain ⟨hv, hshow⟩ := (two_char_ascii b₁ b₂ h₁ h₂).2 _ hp
  exact ⟨Card.code_ofCode n ▸ Card.code_lt _ hv, hshow⟩

/-- acceptance set of `Card::from_str` on two-byte ASCII texts, as an equivalence -/
theorem parse_card_accepts_iff (b₁ b₂ : Nat) (h₁ : b₁ < 128) (h₂ : b₂ < 128) (c : Card) :
    parseCard [b₁, b₂] = .ok c ↔ c ∈ allCards ∧ Spec.cardText c.code = [b₁, b₂] := by
  constructor
  · intro e
    obtain ⟨hv, hshow⟩ := (two_char_ascii b₁ b₂ h₁ h₂).2 c e
    exact ⟨mem_allCards c hv, by rw [← card_text_spec c (mem_allCards c hv), hshow]⟩
  · rintro ⟨hm, ht⟩
    have hv := valid_of_mem_allCards c hm
    rw [← ht, ← card_text_spec c hm]
    exact (card_text_roundtrip c hv).1

/-- non-vacuity: "Jd" is the jack of diamonds (code 14); "dJ", "1s" and "jd" are rejected -/
example : parseCard [74, 100] = .ok ⟨3, 2⟩ ∧ parseCard [100, 74] = .err ∧ parseCard [49, 115] = .err
    ∧ parseCard [106, 100] = .err := by
  refine ⟨?_, ?_, ?_, ?_⟩
  · rw [parse_card_spec 74 100 (by decide) (by decide)]; decide
  · rw [parse_card_spec 100 74 (by decide) (by decide)]; decide
  · rw [parse_card_spec 49 115 (by decide) (by decide)]; decide
  · rw [parse_card_spec 106 100 (by decide) (by decide)]; decide

/-- "é" (two bytes, one char) is rejected, not a panic -/
example : parseCard [195, 169] = .err := by rw [parse_card_spec_all]; decide

example : showCard ⟨3, 2⟩ = [74, 100] ∧ Spec.cardText (Card.code ⟨3, 2⟩) = [74, 100] := by decide

end EspadaVerif.C13
