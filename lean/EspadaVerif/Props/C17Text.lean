/-
C17 — what the text of a range is: the token list of `Display for HandRange` is the run tokens of the pocket row, then for
each high card A … 3 those of its suited and of its offsuit row, then the leftover single-combo tokens.  `C17_text_model`
reads the rows from the table `rank_pairs()` returns (no hypothesis); `C17_text` (weights of a domain on which `==` is
equality) from any table that is the true rank-pair table of the range (`TrueTable`, which `rank_pairs()` returns:
`trueTable_rpList`), with any range that holds its leftovers (`Leftovers`, as `orphan_card_pairs()` does:
`RankPairFacts.lookup_orphList_cases`).  `C17_no_mergeable_neighbours`: two consecutive tokens of a row cannot be merged.
Reflexivity of `==` is needed only on reported weights and is proved there (`reported_self_eq`): a rank pair whose probe
weight fails `p == p` (NaN) is never reported; no `∀ a, weq a a` is assumed in this file.
-/
import EspadaVerif.Props.C17
import EspadaVerif.Props.C12General
import EspadaVerif.Props.Witness.Common

namespace EspadaVerif.C17
open TextDefs

variable {W : Type}

/-- `o` holds the leftovers of `r` w.r.t. the table: nothing for a combo of a listed rank pair, `r`'s own entry
otherwise (the conclusion of `C12_orphans`) -/
def Leftovers (r : HandRange W) (tbl : RankPair → Option W) (o : HandRange W) : Prop :=
  ∀ c, ((∃ rp w, tbl rp = some w ∧ c ∈ rp.combos) → o.lookup c = none)
     ∧ ((∀ rp w, tbl rp = some w → c ∉ rp.combos) → o.lookup c = r.lookup c)

theorem rowText_eq (wt : WText W) (rps : List (RankPair × W)) (first : Nat) (mk : Nat → RankPair) :
    rowText wt (rpLookup rps) first mk = FormatFacts.rowRuns wt rps first mk := rfl

/-- **C17 (text, model table).** For any range and any `==`: `rank_pairs()` and `orphan_card_pairs()` return normally and
the tokens of `Display` are the run tokens of the rows of the returned table, in the canonical row order, followed by the
leftover tokens of the returned leftover range; the text is their comma-joined display. -/
theorem C17_text_model (wt : WText W) (r : HandRange W) :
    ∃ l o, rankPairs wt r = .ok l ∧ orphans wt r = .ok o
      ∧ showRangeTokens wt r = .ok (rankPairText wt (rpLookup l) ++ leftoverText o)
      ∧ showRange wt r
          = .ok (joinCommas ((rankPairText wt (rpLookup l) ++ leftoverText o).map (Token.show wt))) :=
  ⟨_, _, RankPairFacts.rankPairs_eq wt r, RankPairFacts.orphans_eq wt r, FormatFacts.showRangeTokens_eq wt r,
    FormatFacts.showRange_eq wt r⟩

/-- **a reported weight equals itself**: the probe combo is one of the rank pair's combos, so the all-combos test
compares the probe's weight with itself; a NaN probe fails it.  No hypothesis on `wt.eq`. -/
theorem reported_self_eq (wt : WText W) (r : HandRange W) (l : List (RankPair × W)) (hl : rankPairs wt r = .ok l)
    (rp : RankPair) (w : W) (h : rpLookup l rp = some w) : wt.eq w w = true := by
  cases Res.ok.inj ((RankPairFacts.rankPairs_eq wt r).symm.trans hl)
  obtain ⟨_, hp, hall⟩ := (RankPairFacts.report_rpList_raw wt r rp w).mp h
  obtain ⟨q, hq, he⟩ := hall _ (RankPairFacts.probeOf_mem rp)
  cases Option.some.inj (hp.symm.trans hq)
  exact he

/-- a rank pair whose weight is not `==` to itself (NaN) is never reported, whatever the range -/
theorem nan_never_reported (wt : WText W) (r : HandRange W) (l : List (RankPair × W)) (hl : rankPairs wt r = .ok l)
    (rp : RankPair) (w : W) (hnan : wt.eq w w = false) : rpLookup l rp ≠ some w := by
  intro h
  rw [reported_self_eq wt r l hl rp w h] at hnan
  cases hnan

/-- **C17 (no mergeable neighbours).** For any range and any `==`, in every row of the table `rank_pairs()` returns
(pockets: `first = 0`, `mk = .pocket`; under the high card `h`: `first = h + 1`, `mk = .suited h` / `.ofsuit h`):
the state machine writes one token per run `(start, length, weight)`; each run is a non-empty stretch of reported rank
pairs `mk (first + start) …`, all `==` to the run's weight, which is the weight of the run's first rank pair and the
weight of its token; every reported rank pair of the row is in a run; and for two consecutive tokens either the rank pair
right below the first run is not reported (the runs do not touch) or the runs touch and the second weight is not `==` to
the first.  So no two emitted rank-pair tokens of a row could be merged. -/
theorem C17_no_mergeable_neighbours (wt : WText W) (r : HandRange W) (l : List (RankPair × W))
    (hl : rankPairs wt r = .ok l) (first : Nat) (hf : first ≤ 12) (mk : Nat → RankPair) :
    let rs := rowRunsOf wt (rpLookup l) first mk
    rowTokens wt l first 12 mk (List.range' first (13 - first)) = .ok (rs.map (runToken first mk))
    ∧ (∀ run ∈ rs, 1 ≤ run.2.1 ∧ first + run.1 + run.2.1 ≤ 13 ∧ rpLookup l (mk (first + run.1)) = some run.2.2
        ∧ (runToken first mk run).prob = run.2.2
        ∧ ∀ j, run.1 ≤ j → j < run.1 + run.2.1 →
            ∃ w', rpLookup l (mk (first + j)) = some w' ∧ wt.eq w' run.2.2 = true)
    ∧ (∀ j w', first + j < 13 → rpLookup l (mk (first + j)) = some w' →
        ∃ run ∈ rs, run.1 ≤ j ∧ j < run.1 + run.2.1)
    ∧ (∀ k a b, rs[k]? = some a → rs[k + 1]? = some b →
        (a.1 + a.2.1 < b.1 ∧ rpLookup l (mk (first + (a.1 + a.2.1))) = none)
        ∨ (a.1 + a.2.1 = b.1 ∧ wt.eq b.2.2 a.2.2 = false)) := by
  intro rs
  have h := FormatFacts.rowRunsOf_final wt _ first mk (reported_self_eq wt r l hl)
  exact ⟨C17_runs wt l first hf mk,
    fun _ hrun => ⟨h.row_nonempty hrun, h.row_fits hrun, h.row_weight hrun, FormatFacts.runToken_prob ..,
      fun _ => h.row_cells hrun⟩,
    fun _ _ => h.row_cover, fun _ _ _ => h.row_neighbours⟩

/-- the same, read off the token list: consecutive tokens `ta`, `tb` of a row come from consecutive runs -/
theorem C17_no_mergeable_tokens (wt : WText W) (r : HandRange W) (l : List (RankPair × W))
    (hl : rankPairs wt r = .ok l) (first : Nat) (hf : first ≤ 12) (mk : Nat → RankPair) :
    ∃ toks, rowTokens wt l first 12 mk (List.range' first (13 - first)) = .ok toks ∧
      ∀ k ta tb, toks[k]? = some ta → toks[k + 1]? = some tb →
        ∃ a b : Nat × Nat × W, ta = runToken first mk a ∧ tb = runToken first mk b ∧ ta.prob = a.2.2 ∧ tb.prob = b.2.2
          ∧ ((a.1 + a.2.1 < b.1 ∧ rpLookup l (mk (first + (a.1 + a.2.1))) = none)
              ∨ (a.1 + a.2.1 = b.1 ∧ wt.eq tb.prob ta.prob = false)) := by
  refine ⟨_, C17_runs wt l first hf mk, fun k ta tb hta htb => ?_⟩
  rw [List.getElem?_map, Option.map_eq_some_iff] at hta htb
  obtain ⟨a, ha, rfl⟩ := hta
  obtain ⟨b, hb, rfl⟩ := htb
  refine ⟨a, b, rfl, rfl, FormatFacts.runToken_prob first mk a, FormatFacts.runToken_prob first mk b, ?_⟩
  rw [FormatFacts.runToken_prob, FormatFacts.runToken_prob]
  exact (FormatFacts.rowRunsOf_final wt _ first mk (reported_self_eq wt r l hl)).row_neighbours ha hb

theorem trueTable_unique (r : HandRange W) (t₁ t₂ : RankPair → Option W) (h₁ : TrueTable r t₁) (h₂ : TrueTable r t₂) :
    t₁ = t₂ := by
  funext rp
  apply Option.ext
  intro w
  rw [h₁ rp w, h₂ rp w]

open Classical in
theorem leftovers_unique (r : HandRange W) (tbl : RankPair → Option W) (o₁ o₂ : HandRange W)
    (h₁ : Leftovers r tbl o₁) (h₂ : Leftovers r tbl o₂) : ∀ c, o₁.lookup c = o₂.lookup c := by
  intro c
  by_cases h : ∃ rp w, tbl rp = some w ∧ c ∈ rp.combos
  · rw [(h₁ c).1 h, (h₂ c).1 h]
  · have h' : ∀ rp w, tbl rp = some w → c ∉ rp.combos := fun rp w h1 h2 => h ⟨rp, w, h1, h2⟩
    rw [(h₁ c).2 h', (h₂ c).2 h']

/-- **C17 (text).** For weights of a domain on which `==` is equality (hypothesis on the range's contents): whatever
table `tbl` is the true rank-pair table of `r` and whatever range `o` holds its leftovers, the tokens of `Display` are

  run tokens of the pocket row ++ (for high = A … 3: run tokens of the suited row ++ run tokens of the offsuit row)
  ++ leftover tokens,

each row's tokens being the run tokens (`runToken`) of `Spec.runs wt.eq` applied to that row of `tbl`; and the text is
their comma-joined display. -/
theorem C17_text (wt : WText W) (inDom : W → Prop)
    (heq : ∀ a b, inDom a → inDom b → (wt.eq a b = true ↔ a = b)) (r : HandRange W)
    (hr : ∀ c w, r.lookup c = some w → inDom w)
    (tbl : RankPair → Option W) (htbl : TrueTable r tbl) (o : HandRange W) (ho : Leftovers r tbl o) :
    showRangeTokens wt r = .ok (rankPairText wt tbl ++ leftoverText o)
    ∧ showRange wt r = .ok (joinCommas ((rankPairText wt tbl ++ leftoverText o).map (Token.show wt))) := by
  -- the true table is unique and so, up to `lookup`, are its leftovers; the crate's two views return them
  cases trueTable_unique r _ _ htbl (trueTable_rpList wt inDom heq r hr)
  rw [FormatFacts.leftoverText_congr o _ (leftovers_unique r _ o _ ho (RankPairFacts.lookup_orphList_cases wt r))]
  exact ⟨FormatFacts.showRangeTokens_eq wt r, FormatFacts.showRange_eq wt r⟩

/-- a true table and a leftover range exist (they are what the crate's two views return), so `C17_text` is not vacuous -/
theorem C17_text_exists (wt : WText W) (inDom : W → Prop)
    (heq : ∀ a b, inDom a → inDom b → (wt.eq a b = true ↔ a = b)) (r : HandRange W)
    (hr : ∀ c w, r.lookup c = some w → inDom w) :
    ∃ tbl o, TrueTable r tbl ∧ Leftovers r tbl o
      ∧ showRangeTokens wt r = .ok (rankPairText wt tbl ++ leftoverText o) :=
  ⟨_, _, trueTable_rpList wt inDom heq r hr, RankPairFacts.lookup_orphList_cases wt r, FormatFacts.showRangeTokens_eq wt r⟩

/-- on the true table too, consecutive tokens of a row cannot be merged; here "not `==`" is "different" -/
theorem C17_no_mergeable_neighbours_true (wt : WText W) (inDom : W → Prop)
    (heq : ∀ a b, inDom a → inDom b → (wt.eq a b = true ↔ a = b)) (r : HandRange W)
    (hr : ∀ c w, r.lookup c = some w → inDom w)
    (tbl : RankPair → Option W) (htbl : TrueTable r tbl) (first : Nat) (mk : Nat → RankPair) :
    let rs := rowRunsOf wt tbl first mk
    (∀ run ∈ rs, 1 ≤ run.2.1 ∧ first + run.1 + run.2.1 ≤ 13
        ∧ ∀ j, run.1 ≤ j → j < run.1 + run.2.1 → tbl (mk (first + j)) = some run.2.2)
    ∧ (∀ j w', first + j < 13 → tbl (mk (first + j)) = some w' → ∃ run ∈ rs, run.1 ≤ j ∧ j < run.1 + run.2.1)
    ∧ (∀ k a b, rs[k]? = some a → rs[k + 1]? = some b →
        (a.1 + a.2.1 < b.1 ∧ tbl (mk (first + (a.1 + a.2.1))) = none)
        ∨ (a.1 + a.2.1 = b.1 ∧ b.2.2 ≠ a.2.2)) := by
  intro rs
  have h := htbl.runsFinal hr heq first mk
  exact ⟨fun _ hrun => ⟨h.row_nonempty hrun, h.row_fits hrun, fun _ => h.row_const heq (htbl.dom hr) hrun⟩,
    fun _ _ => h.row_cover, fun _ _ _ => h.row_neighbours_ne heq (htbl.dom hr)⟩

open EspadaVerif.Witness

/-- the history of `7d7c:0.5,AQs,AKs,KK:0.5,AA:0.5,QQ` plus an overwritten insert: pockets AA, KK at 0.5 and QQ at 1
(a `KK+:0.5` run then a touching run of a different weight), suited AK, AQ at 1 (an `AQs+` run), a lone leftover -/
def rW : HandRange Wt :=
  (RankPair.pocket 2).combos.map (fun c => (c, Wt.one))
  ++ (RankPair.pocket 0).combos.map (fun c => (c, Wt.half))
  ++ (RankPair.pocket 1).combos.map (fun c => (c, Wt.half))
  ++ (RankPair.suited 0 1).combos.map (fun c => (c, Wt.one))
  ++ (RankPair.suited 0 2).combos.map (fun c => (c, Wt.one))
  ++ [(⟨⟨7, 2⟩, ⟨7, 3⟩⟩, Wt.half), (⟨⟨2, 0⟩, ⟨2, 1⟩⟩, Wt.two)]

/-- the only out-of-domain insert is overwritten: its key answers `one` -/
theorem rW_dom : ∀ c w, rW.lookup c = some w → wtDom w :=
  rW.contents_hyp_of_current (by decide +kernel)

/-- `C17_text_exists` at the witness -/
example : ∃ tbl o, TrueTable rW tbl ∧ Leftovers rW tbl o
    ∧ showRangeTokens wtText rW = .ok (rankPairText wtText tbl ++ leftoverText o) :=
  C17_text_exists wtText wtDom wtextOk.eq_iff rW rW_dom

/-- the rows of an explicit table, by evaluation: `KK+:0.5` then the touching `QQ` (weight 1: not mergeable), `AQs+` -/
example : rankPairText wtText (fun rp => match rp with
      | .pocket 0 => some .half | .pocket 1 => some .half | .pocket 2 => some .one
      | .suited 0 1 => some .one | .suited 0 2 => some .one | _ => none)
    = [⟨.bottomClosed (.pocket 1), .half⟩, ⟨.singleRank (.pocket 2), .one⟩, ⟨.bottomClosed (.suited 0 2), .one⟩] := by
  decide +kernel

/-- and the model's formatter on the witness range gives exactly these tokens followed by the leftover 7♦7♣ (twice:
the leftover pass meets a pocket combo under both suit orders) -/
example : showRangeTokens wtText rW
    = .ok [⟨.bottomClosed (.pocket 1), .half⟩, ⟨.singleRank (.pocket 2), .one⟩, ⟨.bottomClosed (.suited 0 2), .one⟩,
           ⟨.singleCard ⟨⟨7, 2⟩, ⟨7, 3⟩⟩, .half⟩, ⟨.singleCard ⟨⟨7, 2⟩, ⟨7, 3⟩⟩, .half⟩] := by
  decide +kernel

/-- `C17_no_mergeable_neighbours` at the pocket row of the witness -/
example : ∃ l, rankPairs wtText rW = .ok l ∧
    ∀ k a b, (rowRunsOf wtText (rpLookup l) 0 .pocket)[k]? = some a → (rowRunsOf wtText (rpLookup l) 0 .pocket)[k + 1]? = some b →
      (a.1 + a.2.1 < b.1 ∧ rpLookup l (.pocket (0 + (a.1 + a.2.1))) = none)
      ∨ (a.1 + a.2.1 = b.1 ∧ wtText.eq b.2.2 a.2.2 = false) := by
  obtain ⟨l, _, hl, _, _, _⟩ := C17_text_model wtText rW
  exact ⟨l, hl, (C17_no_mergeable_neighbours wtText rW l hl 0 (by omega) .pocket).2.2.2⟩

/-- reflexivity is a theorem about reported weights only: with a NaN-like `==` (`Option Nat`, `none ≠ none`) a rank pair
all of whose combos carry NaN is not reported -/
example : ∃ l, rankPairs C12.fwText ((RankPair.pocket 0).combos.map fun c => (c, (none : Option Nat))) = .ok l
    ∧ rpLookup l (.pocket 0) = none := by
  obtain ⟨l, _, hl, _, _, _⟩ := C17_text_model C12.fwText ((RankPair.pocket 0).combos.map fun c => (c, (none : Option Nat)))
  refine ⟨l, hl, ?_⟩
  cases h : rpLookup l (.pocket 0) with
  | none => rfl
  | some w =>
    have hself := reported_self_eq _ _ l hl _ w h
    cases Res.ok.inj ((RankPairFacts.rankPairs_eq _ _).symm.trans hl)
    have hp := ((RankPairFacts.report_rpList_raw _ _ _ w).mp h).2.1
    have e2 : HandRange.lookup ((RankPair.pocket 0).combos.map fun c => (c, (none : Option Nat)))
        (RankPairFacts.probeOf (.pocket 0)) = some none := by decide
    cases Option.some.inj (e2.symm.trans hp)
    cases hself

end EspadaVerif.C17
