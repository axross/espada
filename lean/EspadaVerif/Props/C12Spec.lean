/-
Props/C12Spec: the specification of the two views of a range (`Spec/RangeViews.lean`: `cLookup`, `RP`,
`allRP`, `reported`, `rankPairView`, `orphanView`), which the driver's test oracle evaluates, is characterised
(unconditionally, then when the weight comparison is equality on the weights present) and proved to agree with the
model's `rankPairs` / `orphans` whenever the contents answer as the model range does (`Agree`): on the contents the
oracle builds from the inserted entries and from the contents of any model range.  Last: the hypothesis on the
comparison cannot be dropped; a concrete run.
-/
import EspadaVerif.Lemmas.ListBasics
import EspadaVerif.Props.C12
import EspadaVerif.Lemmas.Assoc
import EspadaVerif.Props.C12General
import EspadaVerif.Lemmas.RangeAux
import EspadaVerif.Lemmas.NotationToken
import EspadaVerif.Lemmas.NotationList
import EspadaVerif.Props.Witness.Common
import EspadaVerif.Lemmas.Decide

namespace EspadaVerif.Spec
open EspadaVerif.TextDefs EspadaVerif.RankPairFacts

variable {W : Type}

theorem cLookup_nil (c : Nat × Nat) : cLookup ([] : Contents W) c = none := rfl

/-- `reported` is the probe-and-all test of the rank pair's first combo against the others -/
theorem reported_of_combos (weq : W → W → Bool) (m : Contents W) {rp : RP} {c : Nat × Nat} {cs : List (Nat × Nat)}
    (h : rp.combos = c :: cs) : reported weq m rp = probeAll (cLookup m) weq c cs := by
  unfold reported; rw [h]; rfl

theorem reported_eq_some_iff (weq : W → W → Bool) (m : Contents W) (rp : RP) (w : W) :
    reported weq m rp = some w ↔
      ∃ c cs, rp.combos = c :: cs ∧ cLookup m c = some w ∧
        ∀ c' ∈ cs, ∃ w', cLookup m c' = some w' ∧ weq w' w = true := by
  cases hc : rp.combos with
  | nil => simp [reported, hc]
  | cons c cs =>
    rw [reported_of_combos weq m hc, probeAll_eq_some_iff]
    exact ⟨fun h => ⟨c, cs, rfl, h⟩, fun ⟨_, _, he, h⟩ => by cases he; exact h⟩

theorem rankPairView_spec_raw (weq : W → W → Bool) (m : Contents W) (rp : RP) (w : W) :
    (rp, w) ∈ rankPairView weq m ↔ rp ∈ allRP ∧ reported weq m rp = some w :=
  Assoc.mem_filterMap_key

/-- the view lists each rank pair at most once (its keys are a sublist of `allRP`) -/
theorem rankPairView_keys (weq : W → W → Bool) (m : Contents W) :
    (rankPairView weq m).map Prod.fst = allRP.filter (fun rp => (reported weq m rp).isSome) :=
  Assoc.map_fst_filterMap_key allRP (reported weq m)

theorem orphanView_spec (weq : W → W → Bool) (m : Contents W) (e : (Nat × Nat) × W) :
    e ∈ orphanView weq m ↔ e ∈ m ∧ ∀ rp w, (rp, w) ∈ rankPairView weq m → e.1 ∉ rp.combos := by
  simp only [orphanView, List.mem_filter, Bool.not_eq_eq_eq_not, Bool.not_true, List.contains_eq_mem,
    decide_eq_false_iff_not, List.mem_flatMap, not_exists, not_and, Prod.forall]

theorem orphanView_keys_nodup (weq : W → W → Bool) (m : Contents W) (h : (m.map Prod.fst).Nodup) :
    ((orphanView weq m).map Prod.fst).Nodup :=
  h.sublist (List.filter_sublist.map _)

/-- the canonical rank pairs of the specification: `h < k` are rank indexes (0 = ace … 12 = deuce) -/
def RP.canonical : RP → Prop
  | .pocket r => r < 13
  | .suited h k => h < k ∧ k < 13
  | .ofsuit h k => h < k ∧ k < 13

/-- the model's rank pair as the specification's -/
def toRP : RankPair → RP
  | .pocket r => .pocket r
  | .suited h k => .suited h k
  | .ofsuit h k => .ofsuit h k

/-- the specification's rank pair as the model's (inverse of `toRP`) -/
def ofRP : RP → RankPair
  | .pocket r => .pocket r
  | .suited h k => .suited h k
  | .ofsuit h k => .ofsuit h k

theorem ofRP_toRP (rp : RankPair) : ofRP (toRP rp) = rp := by cases rp <;> rfl
theorem toRP_ofRP (rp : RP) : toRP (ofRP rp) = rp := by cases rp <;> rfl
theorem toRP_inj {a b : RankPair} (h : toRP a = toRP b) : a = b := by
  rw [← ofRP_toRP a, ← ofRP_toRP b, h]

theorem toRP_pair_inj (x y : RankPair × W) (e : (toRP x.1, x.2) = (toRP y.1, y.2)) : x = y :=
  Prod.ext (toRP_inj (Prod.mk.inj e).1) (Prod.mk.inj e).2

theorem toRP_canonical (rp : RankPair) : (toRP rp).canonical ↔ RankPair.canonical rp := by
  cases rp <;> exact Iff.rfl

theorem toRP_combos (rp : RankPair) : (toRP rp).combos = rp.combos.map comboCodes := by
  cases rp with
  | pocket r => exact (NotationToken.codes_pocket r).symm
  | suited h k => exact (NotationToken.codes_suited h k).symm
  | ofsuit h k => exact (NotationToken.codes_ofsuit h k).symm

theorem allRP_eq_map : allRP = allRankPairs.map toRP := by
  simp only [allRP, allRankPairs, List.map_append, List.map_map, List.map_flatMap, List.map_cons, List.map_nil, toRP]
  rfl

theorem mem_allRP (rp : RP) : rp ∈ allRP ↔ rp.canonical := by
  rw [← toRP_ofRP rp, toRP_canonical, ← mem_allRankPairs, allRP_eq_map, List.mem_map]
  exact ⟨fun ⟨_, hx, e⟩ => toRP_inj e ▸ hx, fun h => ⟨_, h, rfl⟩⟩

theorem allRP_nodup : allRP.Nodup := by
  rw [allRP_eq_map]
  exact List.Pairwise.map toRP (fun _ _ h e => h (toRP_inj e)) allRankPairs_nodup

theorem allRP_length : allRP.length = 169 := by decide +kernel

theorem RP.combos_length (rp : RP) :
    rp.combos.length = match rp with | .pocket _ => 6 | .suited _ _ => 4 | .ofsuit _ _ => 12 := by
  cases rp with
  | pocket r => simp only [RP.combos, NotationToken.pocketCombos_eq, List.length_map]; decide
  | suited h k => simp only [RP.combos, NotationToken.pairCombos_true, List.length_map]; decide
  | ofsuit h k => simp only [RP.combos, NotationToken.pairCombos_false, List.length_map]; decide

theorem RP.combos_ne_nil (rp : RP) : rp.combos ≠ [] := by
  intro h
  have := RP.combos_length rp
  rw [h] at this
  cases rp <;> cases this

theorem allRP_combos_ne_nil : ∀ rp ∈ allRP, rp.combos ≠ [] := fun rp _ => RP.combos_ne_nil rp

theorem RP.combos_nodup {rp : RP} (hc : rp.canonical) : rp.combos.Nodup := by
  cases rp with
  | pocket r => exact NotationToken.pocketCombos_nodup r
  | suited h k => exact NotationToken.pairCombos_nodup h k true (by have := hc.1; omega)
  | ofsuit h k => exact NotationToken.pairCombos_nodup h k false (by have := hc.1; omega)

theorem reported_eq_some_iff_all (weq : W → W → Bool) (inDom : W → Prop)
    (heq : ∀ a b, inDom a → inDom b → (weq a b = true ↔ a = b)) (m : Contents W)
    (hm : ∀ c w, cLookup m c = some w → inDom w) (rp : RP) (w : W) :
    reported weq m rp = some w ↔ ∀ c ∈ rp.combos, cLookup m c = some w := by
  cases hc : rp.combos with
  | nil => exact absurd hc (RP.combos_ne_nil rp)
  | cons c cs =>
    rw [reported_of_combos weq m hc, probeAll_eq_some_iff_of_heq _ _ inDom heq hm, List.forall_mem_cons]

theorem rankPairView_spec (weq : W → W → Bool) (inDom : W → Prop)
    (heq : ∀ a b, inDom a → inDom b → (weq a b = true ↔ a = b)) (m : Contents W)
    (hm : ∀ c w, cLookup m c = some w → inDom w) (rp : RP) (w : W) :
    (rp, w) ∈ rankPairView weq m ↔ rp ∈ allRP ∧ ∀ c ∈ rp.combos, cLookup m c = some w := by
  rw [rankPairView_spec_raw, reported_eq_some_iff_all weq inDom heq m hm]

theorem orphanView_spec' (weq : W → W → Bool) (inDom : W → Prop)
    (heq : ∀ a b, inDom a → inDom b → (weq a b = true ↔ a = b)) (m : Contents W)
    (hm : ∀ c w, cLookup m c = some w → inDom w) (e : (Nat × Nat) × W) :
    e ∈ orphanView weq m ↔
      e ∈ m ∧ ∀ rp ∈ allRP, ∀ w, (∀ c ∈ rp.combos, cLookup m c = some w) → e.1 ∉ rp.combos := by
  simp only [orphanView_spec, rankPairView_spec weq inDom heq m hm, and_imp]
  exact and_congr_right fun _ => forall_congr' fun _ => forall_comm

/-- the contents the test oracle builds from the entries in insertion order (oldest first): a later entry replaces
an earlier one with the same combo.  The driver (`Driver/TextOps.lean`) has a `specContents` of its own, at `UInt32`, with
the same body; nothing but reading the two ties them. -/
def specContents (es : List (Combo × W)) : Contents W :=
  es.foldl (fun m e => ((e.1.fst.code, e.1.snd.code), e.2) ::
    m.filter (fun x => x.1 != (e.1.fst.code, e.1.snd.code))) []

/-- one insert on the contents -/
def scStep (m : Contents W) (e : Combo × W) : Contents W :=
  (comboCodes e.1, e.2) :: m.filter (fun x => x.1 != comboCodes e.1)

theorem specContents_eq_foldl (es : List (Combo × W)) : specContents es = es.foldl scStep [] := rfl

/-- the oracle's contents answer every lookup as the history of the coded entries does (newest first) -/
theorem cLookup_foldl_scStep (es : List (Combo × W)) (m : Contents W) (c : Nat × Nat) :
    cLookup (es.foldl scStep m) c
      = List.lookup c ((es.map fun e => (comboCodes e.1, e.2)).reverse ++ m) := by
  induction es generalizing m with
  | nil => exact cLookup_eq m c
  | cons e es ih =>
    rw [List.foldl_cons, ih, List.map_cons, List.reverse_cons, List.append_assoc, List.lookup_append, List.lookup_append]
    congr 1
    rw [scStep, List.singleton_append, Assoc.lookup_cons, Assoc.lookup_cons,
      Assoc.lookup_filter_ne m (comboCodes e.1) c _ (by simp)]
    split
    · rfl
    · next h => rw [if_neg fun e => h e.symm]

theorem foldl_scStep_keys_nodup (es : List (Combo × W)) (m : Contents W) (hm : (m.map Prod.fst).Nodup) :
    ((es.foldl scStep m).map Prod.fst).Nodup := by
  induction es generalizing m with
  | nil => exact hm
  | cons e es ih =>
    refine ih _ (List.nodup_cons.mpr ⟨fun hmem => ?_, List.Nodup.sublist (List.Sublist.map _ List.filter_sublist) hm⟩)
    obtain ⟨x, hx, hxe⟩ := List.mem_map.mp hmem
    simpa [hxe] using (List.mem_filter.mp hx).2

theorem specContents_keys_nodup (es : List (Combo × W)) : ((specContents es).map Prod.fst).Nodup :=
  foldl_scStep_keys_nodup es [] List.nodup_nil

/-- every entry of the oracle's contents is an inserted entry, by its codes: it is what its key answers -/
theorem mem_specContents_src {es : List (Combo × W)} {x : (Nat × Nat) × W} (h : x ∈ specContents es) :
    ∃ e ∈ es, x = (comboCodes e.1, e.2) := by
  have hl := (cLookup_eq_some_iff (specContents_keys_nodup es) x.1 x.2).mpr h
  rw [specContents_eq_foldl, cLookup_foldl_scStep, List.append_nil] at hl
  obtain ⟨e, he, hx⟩ := List.mem_map.mp (List.mem_reverse.mp (Assoc.mem_of_lookup hl))
  exact ⟨e, he, hx.symm⟩

/-- the contents `m` hold what the model range `r` answers: a real combo is looked up by its codes with the same result,
and `m` has one entry per key, all keys being codes of real combos -/
structure Agree (r : HandRange W) (m : Contents W) : Prop where
  lookup : ∀ c, ComboOk c → cLookup m (comboCodes c) = r.lookup c
  nodup : (m.map Prod.fst).Nodup
  keys : ∀ x ∈ m, ∃ c w, ComboOk c ∧ x = (comboCodes c, w)

theorem Agree.mem {r : HandRange W} {m : Contents W} (h : Agree r m) {c : Combo} (hc : ComboOk c) (w : W) :
    (comboCodes c, w) ∈ m ↔ r.lookup c = some w := by
  rw [← h.lookup c hc, cLookup_eq_some_iff h.nodup]

theorem Agree.congr {r r' : HandRange W} {m : Contents W} (h : Agree r m) (e : ∀ c, r.lookup c = r'.lookup c) :
    Agree r' m :=
  ⟨fun c hc => (h.lookup c hc).trans (e c), h.nodup, h.keys⟩

/-- **the oracle's contents are the model's range** built by inserting the entries in order -/
theorem agree_specContents (es : List (Combo × W)) (hes : ∀ e ∈ es, ComboOk e.1) :
    Agree es.reverse (specContents es) := by
  refine ⟨fun c hc => ?_, specContents_keys_nodup es, fun x hx => ?_⟩
  · rw [specContents_eq_foldl, cLookup_foldl_scStep, List.append_nil, ← List.map_reverse, HandRange.lookup_eq]
    exact Assoc.lookup_map_key comboCodes es.reverse c
      fun e he h => NotationList.comboCodes_inj (hes e (List.mem_reverse.mp he)) hc h
  · obtain ⟨e, he, rfl⟩ := mem_specContents_src hx
    exact ⟨e.1, e.2, hes e he, rfl⟩

/-- the entries the oracle is fed for a model range: its contents, oldest first -/
def entriesOf (r : HandRange W) : List (Combo × W) := (HandRange.contents r).reverse

/-- the same for any model range, the oracle being fed its contents -/
theorem agree_entriesOf (r : HandRange W) (hr : ∀ c w, r.lookup c = some w → ComboOk c) :
    Agree r (specContents (entriesOf r)) := by
  have h := agree_specContents (entriesOf r) fun e he =>
    hr e.1 e.2 ((RangeAux.mem_contents_iff r e.1 e.2).mp (List.mem_reverse.mp he))
  rw [entriesOf, List.reverse_reverse] at h
  exact h.congr (RangeAux.lookup_contents r)

theorem specContents_dom {inDom : W → Prop} (es : List (Combo × W)) (hdom : ∀ e ∈ es, inDom e.2) :
    ∀ c w, cLookup (specContents es) c = some w → inDom w := by
  intro c w h
  obtain ⟨e, he, hx⟩ := mem_specContents_src (cLookup_mem h)
  cases hx
  exact hdom e he

/-- "what something compares equal to compares equal to itself", for the weights of the entries: all the agreement
theorems need of the comparison.  It follows from equality on a domain (`rrefl_of_heq`), from reflexivity on the weights
present, and it holds of `f32 ==` for ALL values (if `a == b` then `b` is not a NaN, so `b == b`). -/
def RightRefl (weq : W → W → Bool) (es : List (Combo × W)) : Prop :=
  ∀ e ∈ es, ∀ a, weq a e.2 = true → weq e.2 e.2 = true

theorem rrefl_of_heq (weq : W → W → Bool) (inDom : W → Prop)
    (heq : ∀ a b, inDom a → inDom b → (weq a b = true ↔ a = b)) (es : List (Combo × W))
    (hdom : ∀ e ∈ es, inDom e.2) : RightRefl weq es :=
  fun e he _ _ => (heq e.2 e.2 (hdom e he) (hdom e he)).mpr rfl

theorem rrefl_of_refl (weq : W → W → Bool) (es : List (Combo × W)) (h : ∀ e ∈ es, weq e.2 e.2 = true) :
    RightRefl weq es := fun e he _ _ => h e he

theorem rrefl_of_global (weq : W → W → Bool) (es : List (Combo × W)) (h : ∀ a b, weq a b = true → weq b b = true) :
    RightRefl weq es := fun e _ a ha => h a e.2 ha

/-- `RightRefl` in terms of what the range answers -/
def RReflOn (weq : W → W → Bool) (r : HandRange W) : Prop :=
  ∀ c w, r.lookup c = some w → ∀ a, weq a w = true → weq w w = true

theorem RightRefl.on {weq : W → W → Bool} {es : List (Combo × W)} (h : RightRefl weq es) : RReflOn weq es.reverse :=
  fun c w hl => h (c, w) (List.mem_reverse.mp (HandRange.mem_of_lookup hl))

theorem rreflOn_of_heq (weq : W → W → Bool) (inDom : W → Prop)
    (heq : ∀ a b, inDom a → inDom b → (weq a b = true ↔ a = b)) (r : HandRange W)
    (hr : ∀ c w, r.lookup c = some w → inDom w) : RReflOn weq r :=
  fun c w hl _ _ => (heq w w (hr c w hl) (hr c w hl)).mpr rfl

section
variable (wt : WText W) {r : HandRange W} {m : Contents W} (h : Agree r m) (hR : RReflOn wt.eq r)
include h hR

/-- **the report agreement**: for a canonical rank pair the model's probe test and the specification's `reported` give
the same answer as soon as the comparison is right-reflexive on the weights present (no equality needed: e.g.
`-0.0 == 0.0` is allowed).  The model compares the probed combo with itself, the specification does not. -/
theorem Agree.entryW_eq_reported (rp : RankPair) (hc : RankPair.canonical rp) :
    entryW wt r rp = reported wt.eq m (toRP rp) := by
  obtain ⟨c₂, tl, hcomb⟩ := combos_eq_probe_cons rp
  have hcodes : (toRP rp).combos = comboCodes (probeOf rp) :: (c₂ :: tl).map comboCodes := by
    rw [toRP_combos, hcomb]; rfl
  rw [reported_of_combos wt.eq m hcodes, entryW_eq, hcomb,
    probeAll_cons_self _ _ _ _ _ (hR (probeOf rp)),
    probeAll_map r.lookup (cLookup m) comboCodes wt.eq (probeOf rp) (c₂ :: tl)
      fun c hcm => h.lookup c (combos_ok hc (hcomb ▸ hcm))]

/-- **the two rank-pair views are the same list** under the bijection `toRP` -/
theorem Agree.rpList_map : (rpList wt r).map (fun e => (toRP e.1, e.2)) = rankPairView wt.eq m := by
  unfold rankPairView
  rw [rpList_eq_filterMap, List.map_filterMap, allRP_eq_map, List.filterMap_map]
  apply Lemmas.filterMap_congr
  intro rp hrp
  have hc := (mem_allRankPairs rp).mp hrp
  simp only [Function.comp, entryOf, ← h.entryW_eq_reported wt hR rp hc, Option.map_map]
  rfl

theorem Agree.rankPairs :
    ∃ l, rankPairs wt r = .ok l
      ∧ l.map (fun e => (toRP e.1, e.2)) = rankPairView wt.eq m
      ∧ (∀ rp w, (rp, w) ∈ l ↔ (toRP rp, w) ∈ rankPairView wt.eq m)
      ∧ ∀ x ∈ rankPairView wt.eq m, ∃ rp, RankPair.canonical rp ∧ x.1 = toRP rp := by
  have hmap := h.rpList_map wt hR
  refine ⟨rpList wt r, rankPairs_eq wt _, hmap, fun rp w => ?_, fun x hx => ?_⟩
  · rw [← hmap, List.mem_map]
    exact ⟨fun h => ⟨_, h, rfl⟩, fun ⟨x, h, e⟩ => toRP_pair_inj x (rp, w) e ▸ h⟩
  · obtain ⟨rp, hrp, e⟩ := List.mem_map.mp (allRP_eq_map ▸ ((rankPairView_spec_raw _ _ x.1 x.2).mp hx).1)
    exact ⟨rp, (mem_allRankPairs rp).mp hrp, e.symm⟩

theorem Agree.covered {c : Combo} (hc : ComboOk c) :
    c ∈ (rpList wt r).flatMap (fun e => e.1.combos)
      ↔ ∃ rp w, (rp, w) ∈ rankPairView wt.eq m ∧ comboCodes c ∈ rp.combos := by
  rw [← h.rpList_map wt hR]
  simp only [List.mem_flatMap, List.mem_map, Prod.exists, Prod.mk.injEq]
  constructor
  · rintro ⟨rp, w, he, hcm⟩
    exact ⟨_, _, ⟨rp, w, he, rfl, rfl⟩, by rw [toRP_combos]; exact List.mem_map_of_mem hcm⟩
  · rintro ⟨_, _, ⟨rp, w, he, rfl, rfl⟩, hcm⟩
    have hcan := ((rpLookup_rpList_eq_some_iff wt r rp w).mp ((mem_rpList wt r rp w).mp he)).1
    rw [toRP_combos] at hcm
    obtain ⟨c₀, hc₀, hcc⟩ := List.mem_map.mp hcm
    cases NotationList.comboCodes_inj (combos_ok hcan hc₀) hc hcc
    exact ⟨rp, w, he, hc₀⟩

/-- general form of `orphans_agree`: any contents that agree with the range, any comparison right-reflexive on its weights -/
theorem Agree.orphans :
    ∃ o, orphans wt r = .ok o
      ∧ (∀ c, ComboOk c → ∀ w, (o.lookup c = some w ↔ (comboCodes c, w) ∈ orphanView wt.eq m))
      ∧ ∀ x ∈ orphanView wt.eq m, ∃ c w, ComboOk c ∧ x = (comboCodes c, w) := by
  refine ⟨_, orphans_eq wt r, fun c hc w => ?_, fun x hx => h.keys x ((orphanView_spec wt.eq _ x).mp hx).1⟩
  rw [lookup_orphList, Option.ite_none_left_eq_some, h.covered wt hR hc, orphanView_spec, h.mem hc, and_comm]
  simp only [not_exists, not_and]

end

/-! At the inserted entries `es` (what the driver's oracle is given), `wt.eq` being equality on a domain (the hypothesis
of C12). -/

theorem entryW_eq_reported (wt : WText W) (inDom : W → Prop)
    (heq : ∀ a b, inDom a → inDom b → (wt.eq a b = true ↔ a = b)) (es : List (Combo × W))
    (hes : ∀ e ∈ es, ComboOk e.1) (hdom : ∀ e ∈ es, inDom e.2) (rp : RankPair) (hc : RankPair.canonical rp) :
    entryW wt es.reverse rp = reported wt.eq (specContents es) (toRP rp) :=
  (agree_specContents es hes).entryW_eq_reported wt (rrefl_of_heq wt.eq inDom heq es hdom).on rp hc

theorem rpList_map_eq_rankPairView (wt : WText W) (inDom : W → Prop)
    (heq : ∀ a b, inDom a → inDom b → (wt.eq a b = true ↔ a = b)) (es : List (Combo × W))
    (hes : ∀ e ∈ es, ComboOk e.1) (hdom : ∀ e ∈ es, inDom e.2) :
    (rpList wt es.reverse).map (fun e => (toRP e.1, e.2)) = rankPairView wt.eq (specContents es) :=
  (agree_specContents es hes).rpList_map wt (rrefl_of_heq wt.eq inDom heq es hdom).on

/-- **agreement of the rank-pair views.**  On entries with real combos and weights of a domain on which `wt.eq` is
equality, the model's `rank_pairs` of the range built by inserting `es` in order and the specification's
`rankPairView` of the oracle's contents are the same list (hence the same set) under the bijection `toRP`. -/
theorem rankPairs_agree (wt : WText W) (inDom : W → Prop)
    (heq : ∀ a b, inDom a → inDom b → (wt.eq a b = true ↔ a = b)) (es : List (Combo × W))
    (hes : ∀ e ∈ es, ComboOk e.1) (hdom : ∀ e ∈ es, inDom e.2) :
    ∃ l, rankPairs wt es.reverse = .ok l
      ∧ l.map (fun e => (toRP e.1, e.2)) = rankPairView wt.eq (specContents es)
      ∧ (∀ rp w, (rp, w) ∈ l ↔ (toRP rp, w) ∈ rankPairView wt.eq (specContents es))
      ∧ ∀ x ∈ rankPairView wt.eq (specContents es), ∃ rp, RankPair.canonical rp ∧ x.1 = toRP rp :=
  (agree_specContents es hes).rankPairs wt (rrefl_of_heq wt.eq inDom heq es hdom).on

/-- the same, with the model's range written as the result of the inserts -/
theorem rankPairs_agree_foldl (wt : WText W) (inDom : W → Prop)
    (heq : ∀ a b, inDom a → inDom b → (wt.eq a b = true ↔ a = b)) (es : List (Combo × W))
    (hes : ∀ e ∈ es, ComboOk e.1) (hdom : ∀ e ∈ es, inDom e.2) :
    ∃ l, rankPairs wt (es.foldl (fun m e => HandRange.insert m e.1 e.2) []) = .ok l
      ∧ l.map (fun e => (toRP e.1, e.2)) = rankPairView wt.eq (specContents es) := by
  rw [RangeAux.foldl_insert_eq, List.append_nil]
  obtain ⟨l, h1, h2, _⟩ := rankPairs_agree wt inDom heq es hes hdom
  exact ⟨l, h1, h2⟩

/-- **agreement of the leftover views.**  Same hypotheses: a real combo is a leftover of the model with weight `w`
exactly when `(its codes, w)` is an entry of the specification's `orphanView`, and `orphanView` has no other entries. -/
theorem orphans_agree (wt : WText W) (inDom : W → Prop)
    (heq : ∀ a b, inDom a → inDom b → (wt.eq a b = true ↔ a = b)) (es : List (Combo × W))
    (hes : ∀ e ∈ es, ComboOk e.1) (hdom : ∀ e ∈ es, inDom e.2) :
    ∃ o, orphans wt es.reverse = .ok o
      ∧ (∀ c, ComboOk c → ∀ w,
          (o.lookup c = some w ↔ (comboCodes c, w) ∈ orphanView wt.eq (specContents es)))
      ∧ ∀ x ∈ orphanView wt.eq (specContents es), ∃ c w, ComboOk c ∧ x = (comboCodes c, w) :=
  (agree_specContents es hes).orphans wt (rrefl_of_heq wt.eq inDom heq es hdom).on

/-- the same, with the model's range written as the result of the inserts -/
theorem orphans_agree_foldl (wt : WText W) (inDom : W → Prop)
    (heq : ∀ a b, inDom a → inDom b → (wt.eq a b = true ↔ a = b)) (es : List (Combo × W))
    (hes : ∀ e ∈ es, ComboOk e.1) (hdom : ∀ e ∈ es, inDom e.2) :
    ∃ o, orphans wt (es.foldl (fun m e => HandRange.insert m e.1 e.2) []) = .ok o
      ∧ ∀ c, ComboOk c → ∀ w,
          (o.lookup c = some w ↔ (comboCodes c, w) ∈ orphanView wt.eq (specContents es)) := by
  rw [RangeAux.foldl_insert_eq, List.append_nil]
  obtain ⟨o, h1, h2, _⟩ := orphans_agree wt inDom heq es hes hdom
  exact ⟨o, h1, h2⟩

/-! ## an arbitrary model range, hypotheses on its CONTENTS

The theorems above take the inserted entries `es` (what the driver's oracle is given) and ask `ComboOk` / `inDom` of every
insert, overwritten ones included.  For an arbitrary model range `r` (any insert history) the same agreement holds with the
hypothesis on what `lookup` answers, the specification being fed the range's contents (oldest first). -/

theorem cLookup_entriesOf (r : HandRange W) (hr : ∀ c w, r.lookup c = some w → ComboOk c) (c : Combo) (hc : ComboOk c) :
    cLookup (specContents (entriesOf r)) (comboCodes c) = r.lookup c :=
  (agree_entriesOf r hr).lookup c hc

/-- **the model's `rank_pairs()` is the specification's rank-pair view of the range's contents** -/
theorem rankPairs_agree_contents (wt : WText W) (inDom : W → Prop)
    (heq : ∀ a b, inDom a → inDom b → (wt.eq a b = true ↔ a = b)) (r : HandRange W)
    (hr : ∀ c w, r.lookup c = some w → ComboOk c ∧ inDom w) :
    ∃ l, rankPairs wt r = .ok l ∧
      l.map (fun e => (toRP e.1, e.2)) = rankPairView wt.eq (specContents (entriesOf r)) ∧
      (∀ rp w, (rp, w) ∈ l ↔ (toRP rp, w) ∈ rankPairView wt.eq (specContents (entriesOf r))) ∧
      ∀ x ∈ rankPairView wt.eq (specContents (entriesOf r)), ∃ rp, RankPair.canonical rp ∧ x.1 = toRP rp :=
  (agree_entriesOf r fun c w h => (hr c w h).1).rankPairs wt
    (rreflOn_of_heq wt.eq inDom heq r fun c w h => (hr c w h).2)

/-- **the model's `orphan_card_pairs()` is the specification's leftover view of the range's contents** -/
theorem orphans_agree_contents (wt : WText W) (inDom : W → Prop)
    (heq : ∀ a b, inDom a → inDom b → (wt.eq a b = true ↔ a = b)) (r : HandRange W)
    (hr : ∀ c w, r.lookup c = some w → ComboOk c ∧ inDom w) :
    ∃ o, orphans wt r = .ok o ∧
      (∀ c, ComboOk c → ∀ w,
        (o.lookup c = some w ↔ (comboCodes c, w) ∈ orphanView wt.eq (specContents (entriesOf r)))) ∧
      ∀ x ∈ orphanView wt.eq (specContents (entriesOf r)), ∃ c w, ComboOk c ∧ x = (comboCodes c, w) :=
  (agree_entriesOf r fun c w h => (hr c w h).1).orphans wt
    (rreflOn_of_heq wt.eq inDom heq r fun c w h => (hr c w h).2)

/-- at the float-like witness of `Props/C12General.lean` (a NaN insert overwritten by 1.5, weights outside [0,1]): the
history hypothesis of `rankPairs_agree` fails there, the contents hypothesis holds -/
example : ∃ l, rankPairs C12.fwText C12.fwRange = .ok l ∧
    l.map (fun e => (toRP e.1, e.2)) = rankPairView C12.fwText.eq (specContents (entriesOf C12.fwRange)) :=
  let ⟨l, h1, h2, _⟩ := rankPairs_agree_contents C12.fwText C12.fwDom C12.fw_heq C12.fwRange
    (C12.fwRange.contents_hyp_of_current (by decide))
  ⟨l, h1, h2⟩

/-! ## the hypothesis on the comparison cannot be dropped altogether

With a comparison that is not right-reflexive the two definitions differ: the model compares the probed combo with
itself, the specification does not.  (Weights `false` / `true`, `a == b` iff `a ∧ ¬ b`; AKs with AsKs at `false` and
the other three at `true`.)  No such comparison is `f32 ==`. -/

namespace RangeViewsCounter

def wtBad : WText Bool := { one := true, eq := fun a b => a && !b, showW := fun _ => [], parseW := fun _ => none }

def esBad : List (Combo × Bool) :=
  [(⟨⟨0, 0⟩, ⟨1, 0⟩⟩, false), (⟨⟨0, 1⟩, ⟨1, 1⟩⟩, true), (⟨⟨0, 2⟩, ⟨1, 2⟩⟩, true), (⟨⟨0, 3⟩, ⟨1, 3⟩⟩, true)]

theorem spec_reports : rankPairView wtBad.eq (specContents esBad) = [(.suited 0 1, false)] := by decide +kernel
theorem model_does_not : rankPairs wtBad esBad.reverse = .ok [] := by decide +kernel
theorem not_rrefl : ¬ RightRefl wtBad.eq esBad :=
  fun h => absurd (h (⟨⟨0, 0⟩, ⟨1, 0⟩⟩, false) (by decide) true (by decide)) (by decide)

end RangeViewsCounter

/-! ### a concrete run

AKs is inserted completely with mixed weights (1, 0, 1, 1), then QQ with five combos at 0.5 and one at 1, then AKs
again completely at 0.5 (overwriting the first round), then the offsuit combo AsKh at 1.  Only AKs is a complete rank
pair with one weight; AsKh and the six QQ combos are leftovers. -/

namespace RangeViewsExample
open Witness

def ak (s t : Nat) : Combo := ⟨⟨0, s⟩, ⟨1, t⟩⟩
def qq (s t : Nat) : Combo := ⟨⟨2, s⟩, ⟨2, t⟩⟩

def es : List (Combo × Wt) :=
  [(ak 0 0, .one), (ak 1 1, .zero), (ak 2 2, .one), (ak 3 3, .one),
   (qq 0 1, .half), (qq 0 2, .half), (qq 0 3, .half), (qq 1 2, .half), (qq 1 3, .half), (qq 2 3, .one),
   (ak 0 0, .half), (ak 1 1, .half), (ak 2 2, .half), (ak 3 3, .half),
   (ak 0 1, .one)]

theorem es_ok : ∀ e ∈ es, ComboOk e.1 := by decide

theorem es_dom : ∀ e ∈ es, wtDom e.2 := by decide

/-- the oracle's contents: 11 different combos, the first round of AKs is gone -/
theorem contents_eq : specContents es =
    [((0, 5), .one), ((3, 7), .half), ((2, 6), .half), ((1, 5), .half), ((0, 4), .half),
     ((10, 11), .one), ((9, 11), .half), ((9, 10), .half), ((8, 11), .half), ((8, 10), .half), ((8, 9), .half)] := by
  decide +kernel

/-- the specification reports exactly AKs at 0.5 -/
theorem view_eq : rankPairView wtText.eq (specContents es) = [(.suited 0 1, .half)] := by decide +kernel

/-- the specification's leftovers: AsKh and all six QQ combos (one of them has another weight) -/
theorem orph_eq : orphanView wtText.eq (specContents es) =
    [((0, 5), .one), ((10, 11), .one), ((9, 11), .half), ((9, 10), .half), ((8, 11), .half), ((8, 10), .half),
     ((8, 9), .half)] := by
  decide +kernel

/-- `reported_eq_some_iff` at AKs (first combo `(0, 4)` = AsKs) and at QQ (not reported: `(10, 11)` differs) -/
example : ∃ c cs, (RP.suited 0 1).combos = c :: cs ∧ cLookup (specContents es) c = some Wt.half ∧
    ∀ c' ∈ cs, ∃ w', cLookup (specContents es) c' = some w' ∧ wtText.eq w' Wt.half = true :=
  (reported_eq_some_iff wtText.eq (specContents es) (.suited 0 1) .half).mp (by decide +kernel)

example : reported wtText.eq (specContents es) (.pocket 2) = none := by decide +kernel

example : RP.suited 0 1 ∈ allRP ∧ reported wtText.eq (specContents es) (.suited 0 1) = some Wt.half :=
  (rankPairView_spec_raw wtText.eq (specContents es) (.suited 0 1) .half).mp (by rw [view_eq]; decide)

example : ((0, 5), Wt.one) ∈ specContents es ∧
    ∀ rp w, (rp, w) ∈ rankPairView wtText.eq (specContents es) → ((0, 5), Wt.one).1 ∉ rp.combos :=
  (orphanView_spec wtText.eq (specContents es) ((0, 5), .one)).mp (by rw [orph_eq]; decide)

/-- all four AKs combos are present with 0.5; the hypotheses hold of the concrete weights -/
example : RP.suited 0 1 ∈ allRP ∧ ∀ c ∈ (RP.suited 0 1).combos, cLookup (specContents es) c = some Wt.half :=
  (rankPairView_spec wtText.eq wtDom wtextOk.eq_iff (specContents es) (specContents_dom es es_dom)
    (.suited 0 1) .half).mp (by rw [view_eq]; decide)

example : ((10, 11), Wt.one) ∈ specContents es ∧ ∀ rp ∈ allRP, ∀ w,
    (∀ c ∈ rp.combos, cLookup (specContents es) c = some w) → ((10, 11), Wt.one).1 ∉ rp.combos :=
  (orphanView_spec' wtText.eq wtDom wtextOk.eq_iff (specContents es) (specContents_dom es es_dom)
    ((10, 11), .one)).mp (by rw [orph_eq]; decide)

/-- looking AsKs up in the oracle's contents is looking it up in the model's range -/
example : cLookup (specContents es) (0, 4) = HandRange.lookup es.reverse (ak 0 0) :=
  (agree_specContents es es_ok).lookup (ak 0 0) (es_ok (ak 0 0, .half) (by decide))

/-- the model's `rank_pairs` on the range built from `es`, OBTAINED from the specification's view through
`rankPairs_agree` -/
theorem model_view : rankPairs wtText es.reverse = .ok [(RankPair.suited 0 1, Wt.half)] := by
  obtain ⟨l, h1, h2, _, _⟩ := rankPairs_agree wtText wtDom wtextOk.eq_iff es es_ok es_dom
  rw [view_eq] at h2
  have hl : l = [(.suited 0 1, .half)] :=
    (List.map_inj_right (f := fun e : RankPair × Wt => (toRP e.1, e.2)) toRP_pair_inj).mp h2
  rw [h1, hl]

/-- … and the same fact computed directly on the model -/
example : rankPairs wtText es.reverse = .ok [(RankPair.suited 0 1, Wt.half)] := by decide +kernel

/-- the range is the one the inserts build -/
example : ∃ l, rankPairs wtText (es.foldl (fun m e => HandRange.insert m e.1 e.2) []) = .ok l
    ∧ l.map (fun e => (toRP e.1, e.2)) = [(RP.suited 0 1, Wt.half)] := by
  rw [← view_eq]
  exact rankPairs_agree_foldl wtText wtDom wtextOk.eq_iff es es_ok es_dom

/-- the model's leftovers, OBTAINED from the specification's through `orphans_agree`: AsKh stays with its weight,
AsKs (covered by AKs) goes, QdQc stays with weight 1 -/
theorem model_orphans : ∃ o, orphans wtText es.reverse = .ok o
    ∧ o.lookup (ak 0 1) = some .one ∧ o.lookup (ak 0 0) = none ∧ o.lookup (qq 2 3) = some .one := by
  obtain ⟨o, h1, h2, _⟩ := orphans_agree wtText wtDom wtextOk.eq_iff es es_ok es_dom
  refine ⟨o, h1, ?_, ?_, ?_⟩
  · exact (h2 (ak 0 1) (es_ok (ak 0 1, .one) (by decide)) .one).mpr (by rw [orph_eq]; decide)
  · cases h : o.lookup (ak 0 0) with
    | none => rfl
    | some w =>
      have := (h2 (ak 0 0) (es_ok (ak 0 0, .half) (by decide)) w).mp h
      rw [orph_eq] at this
      revert this
      cases w <;> decide
  · exact (h2 (qq 2 3) (es_ok (qq 2 3, .one) (by decide)) .one).mpr (by rw [orph_eq]; decide)

/-! `Agree.rankPairs` / `Agree.orphans` with a comparison that is NOT equality: 0 and 0.5 compare equal (like
`-0.0 == 0.0`) and 2 compares equal to nothing, not even itself (like a NaN).  AKs at 0, 0.5, 0.5, 0 is reported (with
the weight of the probed combo AsKs) by both sides; KQs at 2, 2, 2, 2 by neither. -/

def wtLoose : WText Wt :=
  { wtText with eq := fun a b => a != .two && b != .two && (a == b || (a != .one && b != .one)) }

def kq (s t : Nat) : Combo := ⟨⟨1, s⟩, ⟨2, t⟩⟩

def es2 : List (Combo × Wt) :=
  [(ak 0 0, .zero), (ak 1 1, .half), (ak 2 2, .half), (ak 3 3, .zero),
   (kq 0 0, .two), (kq 1 1, .two), (kq 2 2, .two), (kq 3 3, .two)]

theorem es2_ok : ∀ e ∈ es2, ComboOk e.1 := by decide

theorem wtLoose_rrefl : RightRefl wtLoose.eq es2 :=
  rrefl_of_global _ _ (by intro a b; cases a <;> cases b <;> decide)

/-- it is not equality, and not reflexive -/
example : wtLoose.eq .zero .half = true ∧ wtLoose.eq .two .two = false := by decide

theorem view2_eq : rankPairView wtLoose.eq (specContents es2) = [(.suited 0 1, .zero)] := by decide +kernel

example : ∃ l, rankPairs wtLoose es2.reverse = .ok l
    ∧ l.map (fun e => (toRP e.1, e.2)) = [(RP.suited 0 1, Wt.zero)] := by
  obtain ⟨l, h1, h2, _⟩ := (agree_specContents es2 es2_ok).rankPairs wtLoose wtLoose_rrefl.on
  exact ⟨l, h1, by rw [h2, view2_eq]⟩

example : rankPairs wtLoose es2.reverse = .ok [(RankPair.suited 0 1, Wt.zero)] := by decide +kernel

/-- the four KQs combos are leftovers on both sides -/
example : ∃ o, orphans wtLoose es2.reverse = .ok o ∧ o.lookup (kq 2 2) = some .two := by
  obtain ⟨o, h1, h2, _⟩ := (agree_specContents es2 es2_ok).orphans wtLoose wtLoose_rrefl.on
  exact ⟨o, h1, (h2 (kq 2 2) (es2_ok (kq 2 2, .two) (by decide)) .two).mpr (by decide +kernel)⟩

end RangeViewsExample

end EspadaVerif.Spec
