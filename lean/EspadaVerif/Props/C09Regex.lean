/-
C09 (regex part) — the seven hand-written recognisers of `Model/Token` accept exactly the strings that the seven
regex literals of `HandRangeToken::from_str` accept.  `expected` are seven hand-written `Rx.Re` syntax trees (what each
recogniser was written for), each with a hand proof `recogniser s = Rx.matches expected s`; nothing there looks at `Gen`.
The literals read from the Rust source (`Gen.tokenRegexCodes`) enter through `lits` (and the count `C09_regex_count`): the
kernel parses each and runs the proved-sound equivalence checker against `expected`, so it keeps working when a literal is
rewritten into an equivalent pattern and fails when the language changes (examples at the end).

Semantics: `Rx.matches r s` is whole-string membership of the bytes `s` in the language of `r`, which is what
`Regex::is_match` computes for a pattern `^r$` of the supported subset (see `Model/Regex`).
-/
import EspadaVerif.Model.Token
import EspadaVerif.Lemmas.RegexSound

namespace EspadaVerif.C09Regex
open Rx Rx.Re

def recognisers : List (Bytes → Bool) :=
  [reDoublePocket, reDoubleRankPair, reBottomPocket, reBottomRankPair, reSinglePocket, reSingleRankPair,
   reSingleCardPair]

/-- `[AKQJT98765432]` -/
def rankCls : Re := cls [65, 75, 81, 74, 84, 57, 56, 55, 54, 53, 52, 51, 50]
/-- `[shdc]` -/
def suitCls : Re := cls [115, 104, 100, 99]
/-- `[so]` -/
def soCls : Re := cls [115, 111]
/-- `r?` -/
def opt (r : Re) : Re := alt r eps
/-- `\.[bs]+` -/
def fracRe (bs : List Nat) : Re := seq (cls [46]) (seq (cls bs) (star (cls bs)))
/-- `0(\.[0-9]+)?|1(\.0+)?` -/
def weightRe : Re :=
  alt (seq (cls [48]) (opt (fracRe [48, 49, 50, 51, 52, 53, 54, 55, 56, 57])))
      (seq (cls [49]) (opt (fracRe [48])))
/-- `(:(0(\.[0-9]+)?|1(\.0+)?))?` -/
def weightSuffixRe : Re := opt (seq (cls [58]) weightRe)

/-- `[R]{2}-[R]{2}(:W)?` -/
def expected0 : Re := seq rankCls (seq rankCls (seq (cls [45]) (seq rankCls (seq rankCls weightSuffixRe))))
/-- `[R]{2}[so]-[R]{2}[so](:W)?` -/
def expected1 : Re :=
  seq rankCls (seq rankCls (seq soCls (seq (cls [45]) (seq rankCls (seq rankCls (seq soCls weightSuffixRe))))))
/-- `[R]{2}\+(:W)?` -/
def expected2 : Re := seq rankCls (seq rankCls (seq (cls [43]) weightSuffixRe))
/-- `[R]{2}[so]\+(:W)?` -/
def expected3 : Re := seq rankCls (seq rankCls (seq soCls (seq (cls [43]) weightSuffixRe)))
/-- `[R]{2}(:W)?` -/
def expected4 : Re := seq rankCls (seq rankCls weightSuffixRe)
/-- `[R]{2}[so](:W)?` -/
def expected5 : Re := seq rankCls (seq rankCls (seq soCls weightSuffixRe))
/-- `([R][shdc]){2}(:W)?` -/
def expected6 : Re := seq rankCls (seq suitCls (seq rankCls (seq suitCls weightSuffixRe)))

def expected : List Re := [expected0, expected1, expected2, expected3, expected4, expected5, expected6]

theorem rank_contains (b : Nat) :
    [65, 75, 81, 74, 84, 57, 56, 55, 54, 53, 52, 51, 50].contains b = isRankByte b := rfl

theorem suit_contains (b : Nat) : [115, 104, 100, 99].contains b = isSuitByte b := rfl

theorem so_contains (b : Nat) : [115, 111].contains b = isSoByte b := by
  rw [Bool.eq_iff_iff]; simp [isSoByte]

theorem digit_contains (b : Nat) : [48, 49, 50, 51, 52, 53, 54, 55, 56, 57].contains b = isDigit b := by
  rw [Bool.eq_iff_iff]
  simp only [isDigit, List.contains_iff_mem, List.mem_cons, List.not_mem_nil, or_false, Bool.and_eq_true,
    decide_eq_true_eq]
  omega

theorem zero_contains (b : Nat) : [48].contains b = (b == 48) := by
  rw [Bool.eq_iff_iff]; simp

/-- `\.[bs]+`: a dot, then at least one byte, all of them in `bs` (the induction for `+` is in
`Rx.matches_star_cls`) -/
theorem matches_frac (bs : List Nat) (t : List Nat) :
    Rx.matches (fracRe bs) t =
      match t with
      | 46 :: d :: ds => (d :: ds).all (fun c => bs.contains c)
      | _ => false := by
  rcases t with _ | ⟨c, u⟩
  · rfl
  · by_cases h : c = 46
    · subst h
      rcases u with _ | ⟨d, ds⟩ <;> simp [fracRe, matches_cls_seq, matches_star_cls]
    · simp [fracRe, matches_cls_seq, h]

theorem matches_weight (w : Bytes) : Rx.matches weightRe w = isWeightText w := by
  rcases w with _ | ⟨c, t⟩
  · rfl
  · simp only [weightRe, opt, matches_alt, matches_cls_seq_cons, matches_frac, matches_eps, digit_contains,
      zero_contains]
    by_cases hc : c = 48 ∨ c = 49
    · rcases t with _ | ⟨e, u⟩
      · rcases hc with rfl | rfl <;> rfl
      · by_cases h : e = 46
        · subst h
          rcases u with _ | ⟨d, ds⟩ <;> rcases hc with rfl | rfl <;> simp [isWeightText]
        · rcases hc with rfl | rfl <;> simp [isWeightText, h]
    · simp [isWeightText, not_or.mp hc]

theorem matches_weightSuffix (s : Bytes) : Rx.matches weightSuffixRe s = isWeightSuffix s := by
  rcases s with _ | ⟨c, t⟩
  · rfl
  · by_cases h : c = 58 <;>
      simp [weightSuffixRe, opt, matches_alt, matches_cls_seq, matches_eps, matches_weight, isWeightSuffix, h]

/-! ### the seven recognisers against the expected trees (no `Gen` here) -/

/- With `matches_cls_seq` (one element of a pattern) as a simp lemma, a recogniser and the derivative semantics of its
tree are the same Boolean expression once the text is split into its leading bytes; a recogniser that matches a
literal byte by pattern needs that byte decided first.  The class lemmas rewrite before subterms (`↓`), so that a
class is folded into the predicate of `Model/Token` and not unfolded into a disjunction. -/
attribute [local simp] matches_cls_seq matches_weightSuffix Bool.and_assoc rankCls suitCls soCls
attribute [local simp ↓] rank_contains suit_contains so_contains

theorem reDoublePocket_eq (s : Bytes) : reDoublePocket s = Rx.matches expected0 s := by
  rcases s with _ | ⟨a, _ | ⟨b, _ | ⟨x, t⟩⟩⟩
  case cons.cons.cons =>
    by_cases h : x = 45
    · subst h
      rcases t with _ | ⟨c, _ | ⟨d, rest⟩⟩ <;> simp [expected0, reDoublePocket]
    · simp [expected0, reDoublePocket, h]
  all_goals simp [expected0, reDoublePocket]

theorem reDoubleRankPair_eq (s : Bytes) : reDoubleRankPair s = Rx.matches expected1 s := by
  rcases s with _ | ⟨a, _ | ⟨b, _ | ⟨x, _ | ⟨m, t⟩⟩⟩⟩
  case cons.cons.cons.cons =>
    by_cases h : m = 45
    · subst h
      rcases t with _ | ⟨c, _ | ⟨d, _ | ⟨y, rest⟩⟩⟩ <;> simp [expected1, reDoubleRankPair]
    · simp [expected1, reDoubleRankPair, h]
  all_goals simp [expected1, reDoubleRankPair]

theorem reBottomPocket_eq (s : Bytes) : reBottomPocket s = Rx.matches expected2 s := by
  rcases s with _ | ⟨a, _ | ⟨b, _ | ⟨x, rest⟩⟩⟩
  case cons.cons.cons =>
    by_cases h : x = 43
    · subst h; simp [expected2, reBottomPocket]
    · simp [expected2, reBottomPocket, h]
  all_goals simp [expected2, reBottomPocket]

theorem reBottomRankPair_eq (s : Bytes) : reBottomRankPair s = Rx.matches expected3 s := by
  rcases s with _ | ⟨a, _ | ⟨b, _ | ⟨x, _ | ⟨p, rest⟩⟩⟩⟩
  case cons.cons.cons.cons =>
    by_cases h : p = 43
    · subst h; simp [expected3, reBottomRankPair]
    · simp [expected3, reBottomRankPair, h]
  all_goals simp [expected3, reBottomRankPair]

theorem reSinglePocket_eq (s : Bytes) : reSinglePocket s = Rx.matches expected4 s := by
  rcases s with _ | ⟨a, _ | ⟨b, rest⟩⟩ <;> simp [expected4, reSinglePocket]

theorem reSingleRankPair_eq (s : Bytes) : reSingleRankPair s = Rx.matches expected5 s := by
  rcases s with _ | ⟨a, _ | ⟨b, _ | ⟨x, rest⟩⟩⟩ <;> simp [expected5, reSingleRankPair]

theorem reSingleCardPair_eq (s : Bytes) : reSingleCardPair s = Rx.matches expected6 s := by
  rcases s with _ | ⟨a, _ | ⟨x, _ | ⟨b, _ | ⟨y, rest⟩⟩⟩⟩ <;> simp [expected6, reSingleCardPair]

theorem recogniser_eq_expected (i : Nat) (hi : i < 7) (s : Bytes) :
    (recognisers.getD i (fun _ => false)) s = Rx.matches (expected.getD i Re.empty) s := by
  match i, hi with
  | 0, _ => exact reDoublePocket_eq s
  | 1, _ => exact reDoubleRankPair_eq s
  | 2, _ => exact reBottomPocket_eq s
  | 3, _ => exact reBottomRankPair_eq s
  | 4, _ => exact reSinglePocket_eq s
  | 5, _ => exact reSingleRankPair_eq s
  | 6, _ => exact reSingleCardPair_eq s

/-! ### the literals of the source against the expected trees (kernel evaluation) -/

/-- fuel of the equivalence checker: one unit per work-list entry; the seven checks below each visit 11–16
derivative pairs over 18–22 representative bytes, i.e. a few hundred entries -/
def FUEL : Nat := 5000

def checkCodes (i : Nat) (cs : List Nat) : Bool :=
  match Rx.parse cs with
  | some r => Rx.equivCheck FUEL r (expected.getD i Re.empty)
  | none => false

theorem checkCodes_sound {i : Nat} {cs : List Nat} (h : checkCodes i cs = true) :
    ∃ r, Rx.parse cs = some r ∧ ∀ s, Rx.matches r s = Rx.matches (expected.getD i Re.empty) s := by
  unfold checkCodes at h
  split at h
  · next r hp => exact ⟨r, hp, Rx.equivCheck_sound FUEL r _ h⟩
  · cases h

theorem lits : (List.range 7).all (fun i => checkCodes i (Gen.tokenRegexCodes.getD i [])) = true := by
  decide +kernel

theorem C09_regex_count : Gen.tokenRegexCodes.length = 7 := by decide

/-- **C09 (regex semantics).** Each of the seven pattern literals of the source parses (in the supported
subset), and the `i`-th recogniser of the model accepts a byte string exactly when the parsed pattern matches
it. -/
theorem C09_regex_semantics (i : Nat) (hi : i < 7) (s : Bytes) :
    ∃ r, Rx.parse (Gen.tokenRegexCodes.getD i []) = some r ∧
         (recognisers.getD i (fun _ => false)) s = Rx.matches r s := by
  obtain ⟨r, hp, hr⟩ := checkCodes_sound (List.all_eq_true.mp lits i (List.mem_range.mpr hi))
  exact ⟨r, hp, (recogniser_eq_expected i hi s).trans (hr s).symm⟩

/-! ### sanity examples -/

-- `^[0-9]+` (no `$`)
example : Rx.parse [94, 91, 48, 45, 57, 93, 43] = none := by decide +kernel
-- `^\d+$`
example : Rx.parse [94, 92, 100, 43, 36] = none := by decide +kernel
-- `^.$`
example : Rx.parse [94, 46, 36] = none := by decide +kernel
-- `^[^a]$`
example : Rx.parse [94, 91, 94, 97, 93, 36] = none := by decide +kernel
-- `^a+?$` (lazy)
example : Rx.parse [94, 97, 43, 63, 36] = none := by decide +kernel
-- `^a|b$` (is `(^a)|(b$)`, not an anchored body)
example : Rx.parse [94, 97, 124, 98, 36] = none := by decide +kernel

def litMatches (i : Nat) (s : List Nat) : Option Bool :=
  (Rx.parse (Gen.tokenRegexCodes.getD i [])).map fun r => Rx.matches r s

-- "AA-KK:0.5", "AA-KK", "AA-KK:1.000" are accepted by pattern 0
example : litMatches 0 [65, 65, 45, 75, 75, 58, 48, 46, 53] = some true := by decide +kernel
example : litMatches 0 [65, 65, 45, 75, 75] = some true := by decide +kernel
example : litMatches 0 [65, 65, 45, 75, 75, 58, 49, 46, 48, 48, 48] = some true := by decide +kernel
-- "AA-KK:1.5" is rejected
example : litMatches 0 [65, 65, 45, 75, 75, 58, 49, 46, 53] = some false := by decide +kernel
-- "AA-KK:0.٣" (ARABIC-INDIC DIGIT THREE, UTF-8 `D9 A3`) is rejected
example : litMatches 0 [65, 65, 45, 75, 75, 58, 48, 46, 217, 163] = some false := by decide +kernel

-- an equivalent rewriting of pattern 0 is still accepted:
-- `^[AKQJT98765432][AKQJT98765432]-(?:[AKQJT2-9]){2}(:(1(\.0+)?|0(\.[0123456789]+)?))?$`
example : checkCodes 0
    [94, 91, 65, 75, 81, 74, 84, 57, 56, 55, 54, 53, 52, 51, 50, 93, 91, 65, 75, 81, 74, 84, 57, 56, 55, 54, 53,
     52, 51, 50, 93, 45, 40, 63, 58, 91, 65, 75, 81, 74, 84, 50, 45, 57, 93, 41, 123, 50, 125, 40, 58, 40, 49, 40,
     92, 46, 48, 43, 41, 63, 124, 48, 40, 92, 46, 91, 48, 49, 50, 51, 52, 53, 54, 55, 56, 57, 93, 43, 41, 63, 41,
     41, 63, 36] = true := by decide +kernel
-- a different language is not: `1(\.[0-9]+)?` instead of `1(\.0+)?`
example : checkCodes 0
    [94, 91, 65, 75, 81, 74, 84, 57, 56, 55, 54, 53, 52, 51, 50, 93, 123, 50, 125, 45, 91, 65, 75, 81, 74, 84, 57,
     56, 55, 54, 53, 52, 51, 50, 93, 123, 50, 125, 40, 58, 40, 48, 40, 92, 46, 91, 48, 45, 57, 93, 43, 41, 63, 124,
     49, 40, 92, 46, 91, 48, 45, 57, 93, 43, 41, 63, 41, 41, 63, 36] = false := by decide +kernel
-- nor is a mandatory weight: `(:(…))` instead of `(:(…))?`
example : checkCodes 0
    [94, 91, 65, 75, 81, 74, 84, 57, 56, 55, 54, 53, 52, 51, 50, 93, 123, 50, 125, 45, 91, 65, 75, 81, 74, 84, 57,
     56, 55, 54, 53, 52, 51, 50, 93, 123, 50, 125, 40, 58, 40, 48, 40, 92, 46, 91, 48, 45, 57, 93, 43, 41, 63, 124,
     49, 40, 92, 46, 48, 43, 41, 63, 41, 41, 36] = false := by decide +kernel

/-! ### other spellings of the seven literals

The seven literals as a maintainer might rewrite them (unrolled `{2}`, `(?:…)` groups, `[+]` / `[.]` for
`\+` / `\.`, reordered class, `{1,}` for `+`, `{0,1}` for `?`, `(?:s|o)` for `[so]`, `\A…\z` for `^…$`): each parses
and the checker finds it equivalent to the same expected tree. -/

-- `^[AKQJT98765432][AKQJT98765432]-[AKQJT98765432][AKQJT98765432](:(0(\.[0-9]+)?|1(\.0+)?))?$`
example : checkCodes 0
    [94, 91, 65, 75, 81, 74, 84, 57, 56, 55, 54, 53, 52, 51, 50, 93, 91, 65, 75, 81, 74, 84, 57, 56, 55, 54, 53, 52,
     51, 50, 93, 45, 91, 65, 75, 81, 74, 84, 57, 56, 55, 54, 53, 52, 51, 50, 93, 91, 65, 75, 81, 74, 84, 57, 56,
     55, 54, 53, 52, 51, 50, 93, 40, 58, 40, 48, 40, 92, 46, 91, 48, 45, 57, 93, 43, 41, 63, 124, 49, 40, 92, 46,
     48, 43, 41, 63, 41, 41, 63, 36] = true := by decide +kernel
-- `^[AKQJT98765432]{2}[so]-[AKQJT98765432]{2}[so](?::(?:0(?:\.[0-9]+)?|1(?:\.0+)?))?$`
example : checkCodes 1
    [94, 91, 65, 75, 81, 74, 84, 57, 56, 55, 54, 53, 52, 51, 50, 93, 123, 50, 125, 91, 115, 111, 93, 45, 91, 65, 75,
     81, 74, 84, 57, 56, 55, 54, 53, 52, 51, 50, 93, 123, 50, 125, 91, 115, 111, 93, 40, 63, 58, 58, 40, 63, 58,
     48, 40, 63, 58, 92, 46, 91, 48, 45, 57, 93, 43, 41, 63, 124, 49, 40, 63, 58, 92, 46, 48, 43, 41, 63, 41, 41,
     63, 36] = true := by decide +kernel
-- `^[AKQJT98765432]{2}\+(:(0(\.[0-9]+)?|1(\.0+)?))?$`
example : checkCodes 2
    [94, 91, 65, 75, 81, 74, 84, 57, 56, 55, 54, 53, 52, 51, 50, 93, 123, 50, 125, 92, 43, 40, 58, 40, 48, 40, 92,
     46, 91, 48, 45, 57, 93, 43, 41, 63, 124, 49, 40, 92, 46, 48, 43, 41, 63, 41, 41, 63, 36] = true := by decide +kernel
-- `^[AKQJT98765432]{2}[so][+](:(0([.][0123456789]+)?|1([.]0+)?))?$`
example : checkCodes 3
    [94, 91, 65, 75, 81, 74, 84, 57, 56, 55, 54, 53, 52, 51, 50, 93, 123, 50, 125, 91, 115, 111, 93, 91, 43, 93, 40,
     58, 40, 48, 40, 91, 46, 93, 91, 48, 49, 50, 51, 52, 53, 54, 55, 56, 57, 93, 43, 41, 63, 124, 49, 40, 91, 46,
     93, 48, 43, 41, 63, 41, 41, 63, 36] = true := by decide +kernel
-- `^[2-9AJKQT]{2}(:(0(\.[0-9]+)?|1(\.0+)?))?$`
example : checkCodes 4
    [94, 91, 50, 45, 57, 65, 74, 75, 81, 84, 93, 123, 50, 125, 40, 58, 40, 48, 40, 92, 46, 91, 48, 45, 57, 93, 43,
     41, 63, 124, 49, 40, 92, 46, 48, 43, 41, 63, 41, 41, 63, 36] = true := by decide +kernel
-- `^[AKQJT98765432]{2}(?:s|o)(:(0(\.[0-9]{1,})?|1(\.0{1,})?)){0,1}$`
example : checkCodes 5
    [94, 91, 65, 75, 81, 74, 84, 57, 56, 55, 54, 53, 52, 51, 50, 93, 123, 50, 125, 40, 63, 58, 115, 124, 111, 41,
     40, 58, 40, 48, 40, 92, 46, 91, 48, 45, 57, 93, 123, 49, 44, 125, 41, 63, 124, 49, 40, 92, 46, 48, 123, 49,
     44, 125, 41, 63, 41, 41, 123, 48, 44, 49, 125, 36] = true := by decide +kernel
-- `\A[AKQJT98765432][shdc][AKQJT98765432][shdc](:(0(\.[0-9]+)?|1(\.0+)?))?\z`
example : checkCodes 6
    [92, 65, 91, 65, 75, 81, 74, 84, 57, 56, 55, 54, 53, 52, 51, 50, 93, 91, 115, 104, 100, 99, 93, 91, 65, 75, 81,
     74, 84, 57, 56, 55, 54, 53, 52, 51, 50, 93, 91, 115, 104, 100, 99, 93, 40, 58, 40, 48, 40, 92, 46, 91, 48, 45,
     57, 93, 43, 41, 63, 124, 49, 40, 92, 46, 48, 43, 41, 63, 41, 41, 63, 92, 122] = true := by decide +kernel

def checkParsesButDiffers (i : Nat) (cs : List Nat) : Bool :=
  match Rx.parse cs with
  | some r => !Rx.equivCheck FUEL r (expected.getD i Re.empty)
  | none => false

/-! spellings that are outside the subset (`parse = none`: `\Z`, `{2,1}`, reversed range, flags, named group,
negated class, set operator, `\d`, lazy forms, count above 64, `\b`) or that change the language (parsed, then
refused by the checker) -/

-- `\A[AKQJT98765432][shdc][AKQJT98765432][shdc](:(0(\.[0-9]+)?|1(\.0+)?))?\Z`
example : Rx.parse
    [92, 65, 91, 65, 75, 81, 74, 84, 57, 56, 55, 54, 53, 52, 51, 50, 93, 91, 115, 104, 100, 99, 93, 91, 65, 75, 81,
     74, 84, 57, 56, 55, 54, 53, 52, 51, 50, 93, 91, 115, 104, 100, 99, 93, 40, 58, 40, 48, 40, 92, 46, 91, 48, 45,
     57, 93, 43, 41, 63, 124, 49, 40, 92, 46, 48, 43, 41, 63, 41, 41, 63, 92, 90] = none := by decide +kernel
-- `^[2-9AJKQT]{2,1}(:(0(\.[0-9]+)?|1(\.0+)?))?$`
example : Rx.parse
    [94, 91, 50, 45, 57, 65, 74, 75, 81, 84, 93, 123, 50, 44, 49, 125, 40, 58, 40, 48, 40, 92, 46, 91, 48, 45, 57,
     93, 43, 41, 63, 124, 49, 40, 92, 46, 48, 43, 41, 63, 41, 41, 63, 36] = none := by decide +kernel
-- `^[AKQJT98765432]{2}(?:s|o)(:(0(\.[0-9]{1,})?|1(\.0{1,})?)){1,2}$`
example : checkParsesButDiffers 5
    [94, 91, 65, 75, 81, 74, 84, 57, 56, 55, 54, 53, 52, 51, 50, 93, 123, 50, 125, 40, 63, 58, 115, 124, 111, 41,
     40, 58, 40, 48, 40, 92, 46, 91, 48, 45, 57, 93, 123, 49, 44, 125, 41, 63, 124, 49, 40, 92, 46, 48, 123, 49,
     44, 125, 41, 63, 41, 41, 123, 49, 44, 50, 125, 36] = true := by decide +kernel
-- `^[AKQJT98765432]{2}[s-o](:(0(\.[0-9]+)?|1(\.0+)?))?$`
example : Rx.parse
    [94, 91, 65, 75, 81, 74, 84, 57, 56, 55, 54, 53, 52, 51, 50, 93, 123, 50, 125, 91, 115, 45, 111, 93, 40, 58, 40,
     48, 40, 92, 46, 91, 48, 45, 57, 93, 43, 41, 63, 124, 49, 40, 92, 46, 48, 43, 41, 63, 41, 41, 63, 36] = none := by decide +kernel
-- `^[AKQJT98765432]{2}[o-s](:(0(\.[0-9]+)?|1(\.0+)?))?$`
example : checkParsesButDiffers 5
    [94, 91, 65, 75, 81, 74, 84, 57, 56, 55, 54, 53, 52, 51, 50, 93, 123, 50, 125, 91, 111, 45, 115, 93, 40, 58, 40,
     48, 40, 92, 46, 91, 48, 45, 57, 93, 43, 41, 63, 124, 49, 40, 92, 46, 48, 43, 41, 63, 41, 41, 63, 36] = true := by decide +kernel
-- `^[AKQJT98765432]{2}(?i:s|o)(:(0(\.[0-9]+)?|1(\.0+)?))?$`
example : Rx.parse
    [94, 91, 65, 75, 81, 74, 84, 57, 56, 55, 54, 53, 52, 51, 50, 93, 123, 50, 125, 40, 63, 105, 58, 115, 124, 111,
     41, 40, 58, 40, 48, 40, 92, 46, 91, 48, 45, 57, 93, 43, 41, 63, 124, 49, 40, 92, 46, 48, 43, 41, 63, 41, 41,
     63, 36] = none := by decide +kernel
-- `^[AKQJT98765432]{2}(?P<x>s|o)(:(0(\.[0-9]+)?|1(\.0+)?))?$`
example : Rx.parse
    [94, 91, 65, 75, 81, 74, 84, 57, 56, 55, 54, 53, 52, 51, 50, 93, 123, 50, 125, 40, 63, 80, 60, 120, 62, 115,
     124, 111, 41, 40, 58, 40, 48, 40, 92, 46, 91, 48, 45, 57, 93, 43, 41, 63, 124, 49, 40, 92, 46, 48, 43, 41, 63,
     41, 41, 63, 36] = none := by decide +kernel
-- `^[^2-9AJKQT]{2}(:(0(\.[0-9]+)?|1(\.0+)?))?$`
example : Rx.parse
    [94, 91, 94, 50, 45, 57, 65, 74, 75, 81, 84, 93, 123, 50, 125, 40, 58, 40, 48, 40, 92, 46, 91, 48, 45, 57, 93,
     43, 41, 63, 124, 49, 40, 92, 46, 48, 43, 41, 63, 41, 41, 63, 36] = none := by decide +kernel
-- `^[2-9AJKQT&&[^A]]{2}(:(0(\.[0-9]+)?|1(\.0+)?))?$`
example : Rx.parse
    [94, 91, 50, 45, 57, 65, 74, 75, 81, 84, 38, 38, 91, 94, 65, 93, 93, 123, 50, 125, 40, 58, 40, 48, 40, 92, 46,
     91, 48, 45, 57, 93, 43, 41, 63, 124, 49, 40, 92, 46, 48, 43, 41, 63, 41, 41, 63, 36] = none := by decide +kernel
-- `^[2-9AJKQT]{2}(:(0(\.\d+)?|1(\.0+)?))?$`
example : Rx.parse
    [94, 91, 50, 45, 57, 65, 74, 75, 81, 84, 93, 123, 50, 125, 40, 58, 40, 48, 40, 92, 46, 92, 100, 43, 41, 63, 124,
     49, 40, 92, 46, 48, 43, 41, 63, 41, 41, 63, 36] = none := by decide +kernel
-- `^[2-9AJKQT]{2}(:(0(\.[0-9]+?)?|1(\.0+)?))?$`
example : Rx.parse
    [94, 91, 50, 45, 57, 65, 74, 75, 81, 84, 93, 123, 50, 125, 40, 58, 40, 48, 40, 92, 46, 91, 48, 45, 57, 93, 43,
     63, 41, 63, 124, 49, 40, 92, 46, 48, 43, 41, 63, 41, 41, 63, 36] = none := by decide +kernel
-- `^[2-9AJKQT]{2}(:(0(\.[0-9]{1,}?)?|1(\.0+)?))?$`
example : Rx.parse
    [94, 91, 50, 45, 57, 65, 74, 75, 81, 84, 93, 123, 50, 125, 40, 58, 40, 48, 40, 92, 46, 91, 48, 45, 57, 93, 123,
     49, 44, 125, 63, 41, 63, 124, 49, 40, 92, 46, 48, 43, 41, 63, 41, 41, 63, 36] = none := by decide +kernel
-- `^[2-9AJKQT]{65}$`
example : Rx.parse
    [94, 91, 50, 45, 57, 65, 74, 75, 81, 84, 93, 123, 54, 53, 125, 36] = none := by decide +kernel
-- `^[AKQJT98765432]{2}[\+\-](:(0(\.[0-9]+)?|1(\.0+)?))?$`
example : checkParsesButDiffers 2
    [94, 91, 65, 75, 81, 74, 84, 57, 56, 55, 54, 53, 52, 51, 50, 93, 123, 50, 125, 91, 92, 43, 92, 45, 93, 40, 58,
     40, 48, 40, 92, 46, 91, 48, 45, 57, 93, 43, 41, 63, 124, 49, 40, 92, 46, 48, 43, 41, 63, 41, 41, 63, 36] = true := by decide +kernel
-- `^[2-9AJKQT]{2}(:(0(\.[0-9]+)?|1(\.0+)?))?\b$`
example : Rx.parse
    [94, 91, 50, 45, 57, 65, 74, 75, 81, 84, 93, 123, 50, 125, 40, 58, 40, 48, 40, 92, 46, 91, 48, 45, 57, 93, 43,
     41, 63, 124, 49, 40, 92, 46, 48, 43, 41, 63, 41, 41, 63, 92, 98, 36] = none := by decide +kernel
-- `^[2-9AJKQT]{2}(:(0(\.[0-9]+)?|1(\.0*)?))?$`
example : checkParsesButDiffers 4
    [94, 91, 50, 45, 57, 65, 74, 75, 81, 84, 93, 123, 50, 125, 40, 58, 40, 48, 40, 92, 46, 91, 48, 45, 57, 93, 43,
     41, 63, 124, 49, 40, 92, 46, 48, 42, 41, 63, 41, 41, 63, 36] = true := by decide +kernel

end EspadaVerif.C09Regex
