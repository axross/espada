/-
C17 — Range text is canonical: equal ranges print identically and runs are merged.

In the model a range is the HISTORY of its construction (the list of inserts, newest first); "equal ranges"
are histories with the same `lookup`.
-/
import EspadaVerif.Lemmas.TextDefs
import EspadaVerif.Lemmas.FormatFacts

namespace EspadaVerif.C17

variable {W : Type}

/-- **C17 (canonical).** The text of a range depends only on its contents, not on how or in what order it was
built. -/
theorem C17_canonical (wt : WText W) (r₁ r₂ : HandRange W) (h : ∀ c, r₁.lookup c = r₂.lookup c) :
    showRange wt r₁ = showRange wt r₂ ∧ rankPairs wt r₁ = rankPairs wt r₂
    ∧ (∀ o₁ o₂, orphans wt r₁ = .ok o₁ → orphans wt r₂ = .ok o₂ → ∀ c, o₁.lookup c = o₂.lookup c) := by
  have e1 := RankPairFacts.rpList_congr wt r₁ r₂ h
  have e2 := FormatFacts.leftoverText_congr _ _ (RankPairFacts.lookup_orphList_congr wt r₁ r₂ h)
  refine ⟨?_, ?_, ?_⟩
  · rw [FormatFacts.showRange_eq, FormatFacts.showRange_eq, e1, e2]
  · rw [RankPairFacts.rankPairs_eq, RankPairFacts.rankPairs_eq, e1]
  · intro o₁ o₂ h1 h2 c
    rw [RankPairFacts.orphans_eq] at h1 h2
    cases h1
    cases h2
    exact RankPairFacts.lookup_orphList_congr wt r₁ r₂ h c

/-- **C17 (runs).** For every row (pockets: `first = 0`; kickers under a high card `h`: `first = h + 1`) and every
table of reported rank pairs, the formatter's state machine emits exactly one token (`runToken`) per run of `Spec.runs`,
in row order.  That these are the maximal runs of adjacent rank pairs with equal weight is `C17_runs_maximal`. -/
theorem C17_runs (wt : WText W) (rps : List (RankPair × W)) (first : Nat) (hf : first ≤ 12) (mk : Nat → RankPair) :
    rowTokens wt rps first 12 mk (List.range' first (13 - first))
      = .ok ((Spec.runs wt.eq ((List.range' first (13 - first)).map fun k => rpLookup rps (mk k))).map (runToken first mk)) :=
  FormatFacts.rowTokens_runs wt rps first hf mk

/-- the runs of `Spec.runs` are disjoint, in order, and maximal: two consecutive runs either do not touch or carry
different weights; every run is weight-constant and covers only present entries; every present entry is covered -/
theorem C17_runs_maximal (weq : W → W → Bool) (hrefl : ∀ a, weq a a = true) (row : List (Option W)) :
    let rs := Spec.runs weq row
    (∀ run ∈ rs, 1 ≤ run.2.1 ∧ run.1 + run.2.1 ≤ row.length
        ∧ ∀ i, run.1 ≤ i → i < run.1 + run.2.1 → ∃ w', row[i]? = some (some w') ∧ weq w' run.2.2 = true)
    ∧ (∀ i w', row[i]? = some (some w') → ∃ run ∈ rs, run.1 ≤ i ∧ i < run.1 + run.2.1)
    ∧ List.Pairwise (fun a b => a.1 + a.2.1 ≤ b.1) rs
    ∧ (∀ k, ∀ a b, rs[k]? = some a → rs[k + 1]? = some b → a.1 + a.2.1 = b.1 →
          ∃ wb, row[b.1]? = some (some wb) ∧ weq wb a.2.2 = false) := by
  intro rs
  obtain ⟨hok, _, hcov⟩ := FormatFacts.runs_final weq row fun w _ => hrefl w
  exact ⟨hok.body, hcov, hok.sorted, hok.sep⟩

/-- position of a token in the canonical order: pocket row, then per high card suited row, offsuit row, then leftovers
(1000: any number above the last row's `2 + 2 * 11`) -/
def tokenRow (t : Token W) : Nat :=
  let rowOf : RankPair → Nat
    | .pocket _ => 0
    | .suited h _ => 1 + 2 * h
    | .ofsuit h _ => 2 + 2 * h
  match t.kind with
  | .bottomClosed rp => rowOf rp
  | .doubleClosed rp _ => rowOf rp
  | .singleRank rp => rowOf rp
  | .singleCard _ => 1000

/-- `hmk` is asked of the single-rank tokens only; for the other two kinds of a row it is the same term (`tokenRow` reads
nothing but the rank pair) -/
theorem tokenRow_rowText (wt : WText W) (tbl : RankPair → Option W) (first : Nat) (mk : Nat → RankPair) (n : Nat)
    (hmk : ∀ k, tokenRow (W := W) ⟨.singleRank (mk k), wt.one⟩ = n) :
    ∀ t ∈ rowText wt tbl first mk, tokenRow t = n := by
  intro t ht
  obtain ⟨⟨s, m, w⟩, _, rfl⟩ := List.mem_map.mp ht
  simp only [runToken]
  split
  · exact hmk _
  · split <;> exact hmk _

theorem pairwise_of_const {α : Type} {f : α → Nat} {l : List α} {n : Nat} (h : ∀ t ∈ l, f t = n) :
    l.Pairwise fun a b => f a ≤ f b :=
  List.pairwise_of_forall_mem_list fun a ha b hb => by rw [h a ha, h b hb]; exact Nat.le_refl _

/-- the rows of any table, then any leftovers, stand in the order of `tokenRow` -/
theorem tokenRow_sorted (wt : WText W) (tbl : RankPair → Option W) (o : HandRange W) :
    List.Pairwise (fun a b => tokenRow a ≤ tokenRow b) (rankPairText wt tbl ++ leftoverText o) := by
  -- the position is constant on each of the 25 rows (0; 1 + 2h, 2 + 2h under the high card h) and on the leftovers
  have hP := tokenRow_rowText wt tbl 0 .pocket 0 fun _ => rfl
  have hS := fun h => tokenRow_rowText wt tbl (h + 1) (.suited h) (1 + 2 * h) fun _ => rfl
  have hO := fun h => tokenRow_rowText wt tbl (h + 1) (.ofsuit h) (2 + 2 * h) fun _ => rfl
  have hL : ∀ t ∈ leftoverText o, tokenRow t = 1000 := by
    intro t ht
    obtain ⟨c, p, rfl, _⟩ := FormatFacts.leftoverText_kind _ t ht
    rfl
  have hH : ∀ h, ∀ t ∈ rowText wt tbl (h + 1) (.suited h) ++ rowText wt tbl (h + 1) (.ofsuit h),
      1 + 2 * h ≤ tokenRow t ∧ tokenRow t ≤ 2 + 2 * h := by
    intro h t ht
    rcases List.mem_append.mp ht with ht | ht
    · rw [hS h t ht]; omega
    · rw [hO h t ht]; omega
  simp only [rankPairText, List.pairwise_append, List.pairwise_flatMap, List.mem_flatMap, List.mem_range]
  refine ⟨⟨pairwise_of_const hP, ⟨fun h _ => ⟨pairwise_of_const (hS h), pairwise_of_const (hO h), ?_⟩, ?_⟩, ?_⟩,
    pairwise_of_const hL, ?_⟩
  · intro a ha b hb
    rw [hS h a ha, hO h b hb]; omega
  · refine List.Pairwise.imp ?_ List.pairwise_lt_range
    intro h1 h2 hlt x hx y hy
    have := hH h1 x hx
    have := hH h2 y hy
    omega
  · intro a ha b _
    rw [hP a ha]; exact Nat.zero_le _
  · intro a ha b hb
    rw [hL b hb]
    rcases List.mem_append.mp ha with ha | ha
    · rw [hP a ha]; omega
    · obtain ⟨h, hh, ha⟩ := List.mem_flatMap.mp ha
      have := hH h a ha
      have := List.mem_range.mp hh
      omega

/-- **C17 (order).** Pocket pairs first, then for each high card from ace down its suited and then its offsuit
kickers, then the leftover single combos. -/
theorem C17_order (wt : WText W) (r : HandRange W) (toks : List (Token W)) (h : showRangeTokens wt r = .ok toks) :
    List.Pairwise (fun a b => tokenRow a ≤ tokenRow b) toks := by
  cases (FormatFacts.showRangeTokens_eq wt r).symm.trans h
  exact tokenRow_sorted ..

end EspadaVerif.C17
