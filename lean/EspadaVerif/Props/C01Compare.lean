/-
C01 (second half) — the index order is the poker order.

`Lemmas.Numbering` shows the closed-form class is the order rank of the rule-book `strength` on
shapes.  Here this is transported to seven cards: the evaluated index of seven cards is the class of
their strongest five-card hand, so of two evaluated hands the smaller index is exactly the hand
whose best five cards are stronger under the rule book, and equal indexes are exactly the ties.
-/
import EspadaVerif.Props.C01
import EspadaVerif.Lemmas.Numbering

namespace EspadaVerif.C01
open Spec Lemmas

theorem pairwise_five {α : Type} {R : α → α → Prop} {a b c d e : α} (h : [a, b, c, d, e].Pairwise R) :
    R a b ∧ R b c ∧ R c d ∧ R d e :=
  match h with
  | .cons h1 (.cons h2 (.cons h3 (.cons h4 _))) =>
    ⟨h1 b (by simp), h2 c (by simp), h3 d (by simp), h4 e (by simp)⟩

/-- five distinct valid cards have a valid shape, which carries their class and their strength -/
theorem shape_of_five (S₀ : List Card) (hl : S₀.length = 5) (hnd : S₀.Nodup)
    (hv : ∀ c ∈ S₀, c.valid = true) :
    ∃ s : Shape, s.valid = true ∧ class5 (S₀.map toSpec) = s.cls ∧ strength5 (S₀.map toSpec) = s.str := by
  have hperm := sortRanks_perm_self (S₀.map (·.rank))
  have hsorted := sortRanks_pairwise (S₀.map (·.rank))
  have hlen : (sortRanks (S₀.map (·.rank))).length = 5 := by rw [hperm.length_eq, List.length_map, hl]
  have hb : ∀ r ∈ sortRanks (S₀.map (·.rank)), r < 13 := fun r hr =>
    rank_lt_of_valid hv r (hperm.mem_iff.mp hr)
  have hc : ∀ r, (sortRanks (S₀.map (·.rank))).count r ≤ 4 := fun r =>
    hperm.count_eq r ▸ count_rank_le_four S₀ hnd hv r
  -- a suited hand has five different ranks: cards of one suit with one rank are one card
  have hsuit : allSameSuit (S₀.map toSpec) = true → (sortRanks (S₀.map (·.rank))).Pairwise (· < ·) := by
    intro hall
    obtain ⟨t, ht⟩ := (allSameSuit_map_toSpec S₀).mp hall
    simp only [List.all_eq_true, beq_iff_eq] at ht
    have hn : (sortRanks (S₀.map (·.rank))).Nodup := hperm.nodup_iff.mpr (nodup_rank_of_suit hnd ht)
    exact (hsorted.and hn).imp fun ⟨h1, h2⟩ => by omega
  unfold class5 strength5
  rw [map_toSpec_fst]
  generalize sortRanks (S₀.map (·.rank)) = R at hlen hsorted hb hc hsuit
  match R, hlen with
  | [a, b, c, d, e], _ =>
    obtain ⟨hab, hbc, hcd, hde⟩ := pairwise_five hsorted
    refine ⟨⟨allSameSuit (S₀.map toSpec), a, b, c, d, e⟩, ?_, by simp [Shape.cls], by simp [Shape.str]⟩
    have hae : a ≠ e := by
      intro h
      have := hc a
      obtain rfl : b = a := by omega
      obtain rfl : c = b := by omega
      obtain rfl : d = c := by omega
      subst h
      simp at this
    simp only [Shape.valid, Bool.and_eq_true, decide_eq_true_eq, bne_iff_ne, ne_eq,
      Bool.or_eq_true, Bool.not_eq_true']
    refine ⟨⟨⟨⟨⟨⟨hab, hbc⟩, hcd⟩, hde⟩, hb e (by simp)⟩, hae⟩, ?_⟩
    cases hall : allSameSuit (S₀.map toSpec) with
    | false => exact .inl rfl
    | true =>
      obtain ⟨h1, h2, h3, h4⟩ := pairwise_five (hsuit hall)
      exact .inr ⟨⟨⟨h1, h2⟩, h3⟩, h4⟩

theorem shape_of_sub {cs S₀ : List Card} (h : Seven cs) (hS : S₀ ∈ choose 5 cs) :
    ∃ s : Shape, s.valid = true ∧ class5 (S₀.map toSpec) = s.cls ∧ strength5 (S₀.map toSpec) = s.str := by
  obtain ⟨hsub, hl⟩ := mem_choose_iff.mp hS
  exact shape_of_five S₀ hl (h.nodup.sublist hsub) fun c hc => h.valid c (hsub.subset hc)

/-- the best class and the best strength are attained by one sub-hand, since a smaller class is a greater strength -/
theorem best_attained (cs : List Card) (h : Seven cs) :
    ∃ S₀ ∈ choose 5 cs, ∃ s : Shape, s.valid = true
      ∧ class5 (S₀.map toSpec) = s.cls ∧ strength5 (S₀.map toSpec) = s.str
      ∧ s.cls = best (cs.map toSpec) ∧ s.str = bestStrength (cs.map toSpec) := by
  rw [best_map, bestStrength, map_choose_map]
  have hT : cs.take 5 ∈ choose 5 cs := mem_choose_iff.mpr ⟨List.take_sublist _ _, by simp [h.len]⟩
  obtain ⟨S₀, hS₀, hc, hs⟩ := foldl_min_max (f := fun S => class5 (S.map toSpec))
    (g := fun S => strength5 (S.map toSpec)) (a := 7463) hT
    (by obtain ⟨t, htv, htc, -⟩ := shape_of_sub h hT
        have := (cls_range t htv).2
        omega)
    (by intro S hS T hT hle
        obtain ⟨s, hsv, hsc, hss⟩ := shape_of_sub h hS
        obtain ⟨t, htv, htc, hts⟩ := shape_of_sub h hT
        have := cls_lt_iff t s htv hsv
        omega)
  obtain ⟨s, hsv, hsc, hss⟩ := shape_of_sub h hS₀
  exact ⟨S₀, hS₀, s, hsv, hsc, hss, hsc.symm.trans hc, hss.symm.trans hs⟩

/-- every evaluated index is a class between 1 and 7462 -/
theorem C01_index_range (cs : List Card) (h : Seven cs) (i : Nat) (e : eval7 cs = .ok i) :
    1 ≤ i ∧ i ≤ 7462 := by
  obtain rfl := h.index e
  obtain ⟨_, _, s, hsv, _, _, hb, _⟩ := best_attained cs h
  exact hb ▸ cls_range s hsv

/-- the evaluated index is the class of a five-card sub-hand of maximal rule-book strength -/
theorem C01_best_is_strongest (cs : List Card) (h : Seven cs) (i : Nat) (e : eval7 cs = .ok i) :
    ∃ S ∈ choose 5 (cs.map toSpec), class5 S = i ∧ strength5 S = bestStrength (cs.map toSpec)
      ∧ catOfClass i = categoryOfStrength (strength5 S) := by
  obtain rfl := h.index e
  obtain ⟨S₀, hS₀, s, hsv, hsc, hss, hb, hbs⟩ := best_attained cs h
  refine ⟨S₀.map toSpec, ?_, hsc.trans hb, hss.trans hbs, ?_⟩
  · rw [choose_map]; exact List.mem_map_of_mem hS₀
  · rw [← hb, hss]; exact (category_of_cls s hsv).symm

theorem best_lt_iff {cs₁ cs₂ : List Card} (h₁ : Seven cs₁) (h₂ : Seven cs₂) :
    best (cs₁.map toSpec) < best (cs₂.map toSpec)
      ↔ bestStrength (cs₂.map toSpec) < bestStrength (cs₁.map toSpec) := by
  obtain ⟨_, _, s, hsv, _, _, hsb, hss⟩ := best_attained cs₁ h₁
  obtain ⟨_, _, t, htv, _, _, htb, hts⟩ := best_attained cs₂ h₂
  rw [← hsb, ← htb, ← hss, ← hts]
  exact cls_lt_iff s t hsv htv

theorem best_le_iff {cs₁ cs₂ : List Card} (h₁ : Seven cs₁) (h₂ : Seven cs₂) :
    best (cs₁.map toSpec) ≤ best (cs₂.map toSpec)
      ↔ bestStrength (cs₂.map toSpec) ≤ bestStrength (cs₁.map toSpec) := by
  have := best_lt_iff h₂ h₁
  omega

/-- **C01 (comparison).** Of two evaluated hands the smaller index is exactly the hand that wins under
the rule book (its best five cards are stronger), and equal indexes are exactly the ties. -/
theorem C01_compare (cs₁ cs₂ : List Card) (h₁ : Seven cs₁) (h₂ : Seven cs₂) (i j : Nat)
    (e₁ : eval7 cs₁ = .ok i) (e₂ : eval7 cs₂ = .ok j) :
    (i < j ↔ bestStrength (cs₂.map toSpec) < bestStrength (cs₁.map toSpec))
    ∧ (i = j ↔ bestStrength (cs₁.map toSpec) = bestStrength (cs₂.map toSpec)) := by
  obtain rfl := h₁.index e₁
  obtain rfl := h₂.index e₂
  have := best_le_iff h₁ h₂
  have := best_le_iff h₂ h₁
  exact ⟨best_lt_iff h₁ h₂, by omega⟩

/-- non-vacuity: the spade royal flush, with 7♥ 5♦ beside it, is class 1 -/
example : eval7 [⟨0,0⟩, ⟨1,0⟩, ⟨2,0⟩, ⟨3,0⟩, ⟨4,0⟩, ⟨7,1⟩, ⟨9,2⟩] = .ok 1 := by decide +kernel

end EspadaVerif.C01
