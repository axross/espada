/-
C16 (integer results) — "the per-thread results add up to the single-threaded result", for the numbers the
example accumulates.

`C16_sum` / `Tiles.sum` say that the deal LISTS of the scopes concatenate to the full enumeration.  The example
(examples/multi-thread/main.rs) does not concatenate lists: each worker counts (`materialized += 1`, and per
player and combo `entry.1 += 1`), and the main thread adds the workers' counters.  So: for EVERY predicate `q`
on deals the numbers of deals satisfying `q` in the scopes of `calculateScopes F n` add up to the number in the
full enumeration (`C16_counts`; `n ≥ 1`, any `F`), in particular the equity tally (`C16_tally`); and the same
for what the ITERATORS yield (`C16_model_counts`, through `scope_drain`): the drains of the `n` scoped evaluators
concatenate to the drain of the unscoped one, so every counter over showdowns adds up.  For `n = 0` there is no
scope and no worker, every summed counter is 0, which is the single-threaded result only when that is 0 too
(`C16_zero_loses`); the example calls `calculate_scopes(num_cpus::get() as u32 - 1)`, so `n = 0` is what a
one-CPU machine gets.
Floating-point accumulators (`entry.0 += 1.0 / winner_len * probability`) are NOT covered: `f64` addition is not
associative, so their sum depends on the grouping; only the integer counters are exact.
-/
import EspadaVerif.Props.C16
import EspadaVerif.Props.C04
import EspadaVerif.Spec.Tally
import EspadaVerif.Props.Witness.Common
import EspadaVerif.Lemmas.Decide


namespace EspadaVerif.C16
open Spec C02 EspadaVerif.IterLemmas

variable {W : Type}

/-- **C16 (counters).** For every worker count `n ≥ 1`, every behaviour `F` of the float pipeline and every
predicate `q` on deals (the scope list does not depend on `q`): the per-scope counts add up to the count over
the full enumeration. -/
theorem C16_counts (F : Nat → Nat → Nat × Nat) (n : Nat) (hn : 1 ≤ n)
    (flop : List Nat) (entries : List (List (Nat × Nat × W))) :
    ∃ l : List CalcScope, calculateScopes F n = .ok l ∧ l.length = n ∧
      ∀ q : Deal W → Bool,
        (l.map fun s => (deals flop entries (s.turnFrom, s.riverFrom) (s.turnTo, s.riverTo)).countP q).sum
          = (deals flop entries (0, 1) (48, 49)).countP q := by
  obtain ⟨l, e, hlen, ht⟩ := calculateScopes_tiles F n hn
  refine ⟨l, e, hlen, ?_⟩
  intro q
  rw [← ht.sum flop entries, List.countP_flatMap]
  rfl

/-- the equity tally restricted to a scope: in how many showdowns of `[a, b)` player `p` is flagged a winner
while exactly `k` players are -/
def scopeTally (flop : List Nat) (entries : List (List (Nat × Nat × W))) (a b : Nat × Nat) (p k : Nat) : Nat :=
  (deals flop entries a b).countP fun d =>
    (dealWins flop d)[p]? == some true && (dealWins flop d).countP id == k

theorem tally_eq_scopeTally (flop : List Nat) (entries : List (List (Nat × Nat × W))) (p k : Nat) :
    tally flop entries p k = scopeTally flop entries (0, 1) (48, 49) p k := rfl

/-- **C16 (tallies).** The per-scope equity tallies add up to `Spec.tally`, for every player `p` and every
number of winners `k`. -/
theorem C16_tally (F : Nat → Nat → Nat × Nat) (n : Nat) (hn : 1 ≤ n)
    (flop : List Nat) (entries : List (List (Nat × Nat × W))) :
    ∃ l : List CalcScope, calculateScopes F n = .ok l ∧ l.length = n ∧
      ∀ p k : Nat,
        (l.map fun s => scopeTally flop entries (s.turnFrom, s.riverFrom) (s.turnTo, s.riverTo) p k).sum
          = tally flop entries p k := by
  obtain ⟨l, e, hlen, h⟩ := C16_counts F n hn flop entries
  exact ⟨l, e, hlen, fun p k => h _⟩

/-- `materialized += 1`: every deal counts -/
def qAll : Deal W → Bool := fun _ => true

/-- `player_results[p][combo].1 += 1`: player `p` holds the combo with card codes `(c₁, c₂)` -/
def qHolds (p c₁ c₂ : Nat) : Deal W → Bool :=
  fun d => (d.choice[p]?.map fun c => (c.1, c.2.1)) == some (c₁, c₂)

/-- the summand of the example's win accumulator is non-zero: player `p` holds `(c₁, c₂)`, is flagged a winner,
and exactly `k` players are flagged -/
def qWins (flop : List Nat) (p c₁ c₂ k : Nat) : Deal W → Bool :=
  fun d => qHolds p c₁ c₂ d && ((dealWins flop d)[p]? == some true && (dealWins flop d).countP id == k)

/-- the worker totals `materialized` add up to the number of deals of the full enumeration -/
theorem C16_materialized (F : Nat → Nat → Nat × Nat) (n : Nat) (hn : 1 ≤ n)
    (flop : List Nat) (entries : List (List (Nat × Nat × W))) :
    ∃ l : List CalcScope, calculateScopes F n = .ok l ∧
      (l.map fun s => (deals flop entries (s.turnFrom, s.riverFrom) (s.turnTo, s.riverTo)).length).sum
        = (deals flop entries (0, 1) (48, 49)).length := by
  obtain ⟨l, e, _, h⟩ := C16_counts F n hn flop entries
  exact ⟨l, e, by simpa only [List.countP_true] using h fun _ => true⟩

/-- draining evaluator `e` returns normally with the showdowns `sds` (`C04.IsDrain` without its last clause,
that `next` goes on returning `None`) -/
def Drains (ops : WOps W) (e : Evaluator W) (sds : List (Showdown W)) : Prop :=
  ∃ s₀ sEnd : IterState W, e.intoIter = .ok s₀ ∧
    ∀ limit, sds.length < limit → drainFuel ops limit s₀ [] = .ok (sds, sEnd)

theorem Drains.unique {ops : WOps W} {e : Evaluator W} {sds sds' : List (Showdown W)}
    (h : Drains ops e sds) (h' : Drains ops e sds') : sds = sds' :=
  let ⟨_, _, h0, hd⟩ := h
  let ⟨_, _, h0', hd'⟩ := h'
  C04.drain_unique h0 h0' hd hd'

/-- **C16 (the iterators).** For every worker count `n ≥ 1` and every `F`: each of the `n` scoped evaluators
drains normally (`parts`: worker by worker), the unscoped evaluator drains normally (`full`), the workers'
showdowns concatenated are exactly the single-threaded showdowns, and therefore every integer counter over
showdowns (any predicate `q`) summed over the workers equals the single-threaded counter. -/
theorem C16_model_counts (ops : WOps W) (F : Nat → Nat → Nat × Nat) (n : Nat) (hn : 1 ≤ n)
    (flop : List Card) (ranges : List (List (Combo × W))) (h : WfInput flop ranges) :
    ∃ l : List CalcScope, calculateScopes F n = .ok l ∧ l.length = n ∧
    ∃ (parts : List (List (Showdown W))) (full : List (Showdown W)), parts.length = n
      ∧ (∀ x ∈ l.zip parts,
          Drains ops (mkEvaluator flop ranges (x.1.turnFrom, x.1.riverFrom) (x.1.turnTo, x.1.riverTo)) x.2)
      ∧ Drains ops (Evaluator.new (flop.map some ++ [none, none]) ranges) full
      ∧ parts.flatten = full
      ∧ ∀ q : Showdown W → Bool, (parts.map (List.countP q)).sum = full.countP q := by
  obtain ⟨l, e, hlen, ht⟩ := calculateScopes_tiles F n hn
  -- every worker's drain is the explicit one of its scope; they tile because the positions do
  have drains : ∀ a b, ValidScope a b → Drains ops (mkEvaluator flop ranges a b) (drainOf ops flop ranges a b) :=
    fun a b hs =>
      let ⟨s₀, sEnd, h0, hd, _⟩ := scope_drain ops h.wfFlop h.rv hs
      ⟨s₀, sEnd, h0, hd⟩
  have hcat : (l.map fun s => drainOf ops flop ranges (s.turnFrom, s.riverFrom) (s.turnTo, s.riverTo)).flatten
      = drainOf ops flop ranges (0, 1) (48, 49) := by
    rw [← List.flatMap_def]
    exact Lemmas.flatMap_pieces ht.positions.1 _
  refine ⟨l, e, hlen, _, _, by rw [List.length_map, hlen], ?_,
    drains (0, 1) (48, 49) ValidScope.full, hcat, fun q => ?_⟩
  · intro x hx
    obtain ⟨i, hi, rfl⟩ := List.getElem_of_mem hx
    rw [List.getElem_zip, List.getElem_map]
    exact drains _ _ (ht.valid _ (List.getElem_mem _))
  · rw [← hcat, List.countP_flatten]

/-- with no worker there is no scope, whatever the float pipeline does -/
theorem C16_zero (F : Nat → Nat → Nat × Nat) : calculateScopes F 0 = .ok [] := rfl

theorem C16_zero_counts (F : Nat → Nat → Nat × Nat) (flop : List Nat) (entries : List (List (Nat × Nat × W)))
    (q : Deal W → Bool) :
    ∃ l : List CalcScope, calculateScopes F 0 = .ok l ∧ l = [] ∧
      (l.map fun s => (deals flop entries (s.turnFrom, s.riverFrom) (s.turnTo, s.riverTo)).countP q).sum = 0 :=
  ⟨[], rfl, rfl, rfl⟩

/-- for `n = 0` the conclusion of `C16_counts` holds iff no deal of the full enumeration satisfies `q`: the
hypothesis `1 ≤ n` is necessary -/
theorem C16_zero_loses (F : Nat → Nat → Nat × Nat) (flop : List Nat) (entries : List (List (Nat × Nat × W)))
    (q : Deal W → Bool) :
    (∃ l : List CalcScope, calculateScopes F 0 = .ok l ∧
      (l.map fun s => (deals flop entries (s.turnFrom, s.riverFrom) (s.turnTo, s.riverTo)).countP q).sum
        = (deals flop entries (0, 1) (48, 49)).countP q)
    ↔ (deals flop entries (0, 1) (48, 49)).countP q = 0 := by
  constructor
  · rintro ⟨_, ⟨⟩, hsum⟩
    exact hsum.symm
  · exact fun h0 => ⟨[], rfl, h0.symm⟩

/-! ### instances at concrete data

Seven workers, the even split `F₁` and the hostile pipeline `F₂` (as in `Props/Witness/C16.lean`, defined again
below); flop A♠ K♦ 7♣;
player 1: Q♠Q♥ (2), A♥K♥ (3); player 2: J♠T♠ (1), Q♥J♥ (5). -/
namespace CountsWitness
open EspadaVerif.Witness

def workers : Nat := 7
def F₁ (i n : Nat) : Nat × Nat := ((i + 1) * 48 / n, 5 * i + 3)
def F₂ (i n : Nat) : Nat × Nat := ((i + 1) * 300 / n, 77 * i + 3)
def flopCodes : List Nat := [0, 6, 31]
def entries : List (List (Nat × Nat × Nat)) := [[(8, 9, 2), (1, 5, 3)], [(12, 16, 1), (9, 13, 5)]]
def flop : List Card := [⟨0, 0⟩, ⟨1, 2⟩, ⟨7, 3⟩]
def ranges : List (List (Combo × Nat)) :=
  [[(⟨⟨2, 0⟩, ⟨2, 1⟩⟩, 2), (⟨⟨0, 1⟩, ⟨1, 1⟩⟩, 3)], [(⟨⟨3, 0⟩, ⟨4, 0⟩⟩, 1), (⟨⟨2, 1⟩, ⟨3, 1⟩⟩, 5)]]

theorem wf : WfInput flop ranges := by decide

/-- the counter "player 1 holds A♥K♥", the hostile pipeline -/
example : ∃ l : List CalcScope, calculateScopes F₂ workers = .ok l ∧
    (l.map fun s => (deals flopCodes entries (s.turnFrom, s.riverFrom) (s.turnTo, s.riverTo)).countP
        (qHolds 0 1 5)).sum
      = (deals flopCodes entries (0, 1) (48, 49)).countP (qHolds 0 1 5) := by
  obtain ⟨l, e, _, h⟩ := C16_counts F₂ workers (by decide) flopCodes entries
  exact ⟨l, e, h _⟩

example : ∃ l : List CalcScope, calculateScopes F₁ workers = .ok l ∧ l.length = workers ∧
    ∀ p k : Nat,
      (l.map fun s => scopeTally flopCodes entries (s.turnFrom, s.riverFrom) (s.turnTo, s.riverTo) p k).sum
        = tally flopCodes entries p k :=
  C16_tally F₁ workers (by decide) flopCodes entries

/-- a closed cross-check by evaluation, independent of the theorems: a constant pipeline and two workers cut
at (46, 48); the second worker's scope holds the last two positions, where the counter "player 1 holds A♥K♥"
is 4 (two legal choices per position); cutting that scope once more at (47, 48) separates it as 2 + 2 -/
example : calculateScopes (fun _ _ => (46, 1)) 2 = .ok [⟨0, 1, 46, 48⟩, ⟨46, 48, 48, 49⟩] := by decide
example : (deals flopCodes entries (46, 48) (48, 49)).countP (qHolds 0 1 5) = 4 := by
  rw [deals_of_positions positions_last2]
  decide +kernel
example : (deals flopCodes entries (46, 48) (47, 48)).countP (qHolds 0 1 5)
    + (deals flopCodes entries (47, 48) (48, 49)).countP (qHolds 0 1 5) = 4 := by
  rw [deals_of_positions (a := (46, 48)) (b := (47, 48)) (positionsBetween_next (p := (46, 48)) (by decide)),
    deals_of_positions positions_last1]
  decide +kernel

example : ∃ l : List CalcScope, calculateScopes F₂ workers = .ok l ∧ l.length = workers ∧
    ∃ (parts : List (List (Showdown Nat))) (full : List (Showdown Nat)), parts.length = workers
      ∧ (∀ x ∈ l.zip parts,
          Drains natOps (mkEvaluator flop ranges (x.1.turnFrom, x.1.riverFrom) (x.1.turnTo, x.1.riverTo)) x.2)
      ∧ Drains natOps (Evaluator.new (flop.map some ++ [none, none]) ranges) full
      ∧ parts.flatten = full
      ∧ ∀ q : Showdown Nat → Bool, (parts.map (List.countP q)).sum = full.countP q :=
  C16_model_counts natOps F₂ workers (by decide) flop ranges wf

/-- `n = 0` really loses something here: the last position alone has three legal deals -/
example : ¬ ∃ l : List CalcScope, calculateScopes F₁ 0 = .ok l ∧
    (l.map fun s => (deals flopCodes entries (s.turnFrom, s.riverFrom) (s.turnTo, s.riverTo)).countP
        qAll).sum
      = (deals flopCodes entries (0, 1) (48, 49)).countP qAll := by
  rw [C16_zero_loses]
  have h3 : (deals flopCodes entries (47, 48) (48, 49)).countP qAll = 3 := by
    rw [deals_of_positions positions_last1]
    decide +kernel
  have happ := C04.deals_append flopCodes entries (0, 1) (47, 48) (48, 49)
    (by decide) (by decide)
  rw [← happ, List.countP_append, h3]
  omega

end CountsWitness

end EspadaVerif.C16
