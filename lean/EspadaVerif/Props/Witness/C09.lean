/-
Non-vacuity witnesses for `Props/C09.lean` (and, through it, `Props/C09Regex.lean`).

Weights: the concrete `Wt` with `wtText` / `wtOps` of `Witness/Common.lean`.
Data: the token text `AJs+:0.5`; the range text `AKs,7d7c:0.5` and its parsed history `r₀` (five entries);
the flop A♠ K♦ 7♣ (so three of the parsed combos — A♠K♠, A♦K♦, 7♦7♣ — collide with the board and must be skipped, not
panic) with a second player holding Q♠Q♥ at weight 0.5; the byte string `hostile` (not ASCII, then not UTF-8).
`C09_parse_total` and `C09_range_views_total` have no hypotheses; they are instantiated as sanity checks.
-/
import EspadaVerif.Props.C09
import EspadaVerif.Props.Witness.Common
import EspadaVerif.Lemmas.Decide


namespace EspadaVerif.C09.Witness
open TextDefs EspadaVerif.Witness

/-- `AJs+:0.5` -/
def tokTxt : Bytes := [65, 74, 115, 43, 58, 48, 46, 53]
def tok : Token Wt := ⟨.bottomClosed (.suited 0 3), .half⟩

/-- `AKs,7d7c:0.5` -/
def txt : Bytes := [65, 75, 115, 44, 55, 100, 55, 99, 58, 48, 46, 53]
/-- its insert history, newest first -/
def r₀ : HandRange Wt :=
  [(⟨⟨7, 2⟩, ⟨7, 3⟩⟩, .half), (⟨⟨0, 3⟩, ⟨1, 3⟩⟩, .one), (⟨⟨0, 2⟩, ⟨1, 2⟩⟩, .one), (⟨⟨0, 1⟩, ⟨1, 1⟩⟩, .one),
   (⟨⟨0, 0⟩, ⟨1, 0⟩⟩, .one)]

def flop : List Card := [⟨0, 0⟩, ⟨1, 2⟩, ⟨7, 3⟩]
def others : List (List (Combo × Wt)) := [[(⟨⟨2, 0⟩, ⟨2, 1⟩⟩, .half)]]
def A : Nat × Nat := (46, 47)
def B : Nat × Nat := (48, 49)

/-- é (two bytes), a rank letter, a lone continuation byte -/
def hostile : Bytes := [195, 169, 65, 128]

theorem tok_parses : parseToken wtText tokTxt = .ok tok := by decide +kernel
theorem txt_parses : parseRange wtText txt = .ok r₀ := by decide +kernel
theorem flop_ok : flop.length = 3 ∧ flop.Nodup ∧ ∀ c ∈ flop, c.valid = true := by decide
theorem others_ok : C02.WfInput flop others := by decide
theorem scope_ok : C02.ValidScope A B := by decide

theorem C09_parse_total_at_witness :
    parseRank hostile ≠ .panic ∧ parseSuit hostile ≠ .panic ∧ parseCard hostile ≠ .panic ∧ parsePair hostile ≠ .panic
    ∧ parseToken wtText hostile ≠ .panic ∧ parseRange wtText hostile ≠ .panic :=
  C09_parse_total wtText hostile
/-- by evaluation: five errors and (the range parser skips what it cannot read) an empty range -/
example : parseRank hostile = .err ∧ parseSuit hostile = .err ∧ parseCard hostile = .err ∧ parsePair hostile = .err
    ∧ parseToken wtText hostile = .err ∧ parseRange wtText hostile = .ok [] := by decide +kernel
/-- the slices of the model do panic off a character boundary, so "never a panic" says something -/
example : slice hostile 0 1 = .panic ∧ slice hostile 0 2 = .ok [195, 169] := by decide

theorem C09_use_total_at_witness :
    ∃ es, tok.expand = .ok es ∧ (∀ e ∈ es, ComboOk e.1 ∧ e.2 = tok.prob) :=
  C09_use_total wtText tokTxt tok tok_parses
/-- by evaluation: twelve combos (AKs, AQs, AJs), all with the token's weight -/
example : (match tok.expand with
    | .ok es => some (es.length, es.all (fun e => e.1.fst.valid && e.1.snd.valid && Card.lt e.1.fst e.1.snd && e.2 == Wt.half))
    | _ => none) = some (12, true) := by decide +kernel

/-- a range no parser would produce: a non-canonical key (K♠ before A♠), a card that is no card, the weight 2 -/
def weird : HandRange Wt := [(⟨⟨1, 0⟩, ⟨0, 0⟩⟩, .two), (⟨⟨40, 9⟩, ⟨0, 0⟩⟩, .half)]
theorem C09_range_views_total_at_witness :
    (∃ l, rankPairs wtText weird = .ok l) ∧ (∃ o, orphans wtText weird = .ok o) ∧ (∃ t, showRange wtText weird = .ok t) :=
  C09_range_views_total wtText weird
example : rankPairs wtText weird = .ok [] ∧ orphans wtText weird = .ok weird := by decide +kernel

theorem C09_range_total_at_witness :
    (∃ l, rankPairs wtText r₀ = .ok l) ∧ (∃ o, orphans wtText r₀ = .ok o) ∧ (∃ t, showRange wtText r₀ = .ok t)
    ∧ ∃ s₀ : IterState Wt, (C02.mkEvaluator flop (HandRange.contents r₀ :: others) A B).intoIter = .ok s₀ ∧
        ∀ limit, ∃ sds s', drainFuel wtOps limit s₀ [] = .ok (sds, s') :=
  C09_range_total wtText wtOps txt r₀ txt_parses flop flop_ok others others_ok A B scope_ok

/-- cross-check of the three views by evaluation: one complete rank pair (AKs at weight 1), one leftover combo,
and the text `AKs,7d7c:0.5,7d7c:0.5` (the formatter writes a leftover pair of equal ranks once per ordered
suit pair: a known quirk of the crate, harmless when parsed back) -/
theorem views_eval :
    rankPairs wtText r₀ = .ok [(.suited 0 1, .one)]
    ∧ orphans wtText r₀ = .ok [(⟨⟨7, 2⟩, ⟨7, 3⟩⟩, .half)]
    ∧ showRange wtText r₀ = .ok [65, 75, 115, 44, 55, 100, 55, 99, 58, 48, 46, 53, 44, 55, 100, 55, 99, 58, 48, 46, 53] := by
  decide +kernel

/-- the history has no repeated key, so the map's contents are the history itself (`contents` is defined by
well-founded recursion: only the kernel evaluates it, `rfl` and plain `decide` do not).  This ties the drain
`drain_eval` runs, on `r₀`, to the one `C09_range_total_at_witness` speaks of, on `HandRange.contents r₀`. -/
theorem contents_r₀ : HandRange.contents r₀ = r₀ := by decide +kernel

/-- cross-check of the enumeration by running the model: over the last three positions the drain returns
normally with 3 positions × 2 legal combos of the first player (A♠K♠, A♦K♦ and 7♦7♣ collide with the flop and
are skipped) -/
theorem drain_eval :
    (match (C02.mkEvaluator flop (r₀ :: others) A B).intoIter with
     | .ok s =>
       match drainFuel wtOps 50 s [] with
       | .ok (sds, _) => some (sds.length, sds.map (·.prob))
       | _ => none
     | _ => none)
    = some (6, [.half, .half, .half, .half, .half, .half]) := by decide +kernel
example : Wt.mul .half .half = .half ∧ Wt.mul (Wt.mul .one .one) .half = .half := by decide

theorem C09_regex_semantics_at_witness :
    ∃ r, Rx.parse (Gen.tokenRegexCodes.getD 3 []) = some r ∧
         (C09Regex.recognisers.getD 3 (fun _ => false)) tokTxt = Rx.matches r tokTxt :=
  C09_regex_semantics 3 (by decide) tokTxt

/-- both sides by evaluation: the hand-written recogniser of branch 3 (`[R]{2}[so]\+(:W)?`) and the regex
literal read from the source, parsed and matched by derivatives, accept `AJs+:0.5` -/
example : (C09Regex.recognisers.getD 3 (fun _ => false)) tokTxt = true := by decide
example : (match Rx.parse (Gen.tokenRegexCodes.getD 3 []) with
    | some r => Rx.matches r tokTxt
    | none => false) = true := by decide +kernel
/-- and both reject `AJs+:0.5x` and `AJs+:2` -/
example : (C09Regex.recognisers.getD 3 (fun _ => false)) (tokTxt ++ [120]) = false
    ∧ (C09Regex.recognisers.getD 3 (fun _ => false)) [65, 74, 115, 43, 58, 50] = false := by decide
example : (match Rx.parse (Gen.tokenRegexCodes.getD 3 []) with
    | some r => Rx.matches r (tokTxt ++ [120]) || Rx.matches r [65, 74, 115, 43, 58, 50]
    | none => true) = false := by decide +kernel
/-- the bound `i < 7` matters: there is no eighth literal to parse -/
example : Rx.parse (Gen.tokenRegexCodes.getD 7 []) = none := by decide +kernel

example : Gen.tokenRegexCodes.length = 7 := C09_regex_count

end EspadaVerif.C09.Witness
