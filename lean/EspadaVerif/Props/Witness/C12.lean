/-
Non-vacuity witnesses for `Props/C12.lean`.

Weights: the concrete `Wt` with `wtText`, `wtDom`, `wtextOk` of `Witness/Common.lean` (the assumed bundle
`WTextOk` is PROVED for this instance there).
Data: the range `r₁` = the history of parsing `QQ:0.5,QsQh:0,AKs,7d7c:0.5` (twelve inserts, newest first):
* AKs is complete at one weight (1): a reported rank pair;
* the queens are complete as combos but NOT at one weight (Q♠Q♥ was overwritten with 0, the other five have 0.5;
  the history still holds the shadowed older entry): no rank pair, six leftovers;
* 7♦7♣ at 0.5 is a lone leftover.
-/
import EspadaVerif.Props.C12
import EspadaVerif.Props.Witness.Common
import EspadaVerif.Lemmas.Decide


namespace EspadaVerif.C12.Witness
open TextDefs EspadaVerif.Witness

/-- `QQ:0.5,QsQh:0,AKs,7d7c:0.5` -/
def txt : Bytes :=
  [81, 81, 58, 48, 46, 53, 44, 81, 115, 81, 104, 58, 48, 44, 65, 75, 115, 44, 55, 100, 55, 99, 58, 48, 46, 53]

def r₁ : HandRange Wt :=
  [(⟨⟨7, 2⟩, ⟨7, 3⟩⟩, .half),
   (⟨⟨0, 3⟩, ⟨1, 3⟩⟩, .one), (⟨⟨0, 2⟩, ⟨1, 2⟩⟩, .one), (⟨⟨0, 1⟩, ⟨1, 1⟩⟩, .one), (⟨⟨0, 0⟩, ⟨1, 0⟩⟩, .one),
   (⟨⟨2, 0⟩, ⟨2, 1⟩⟩, .zero),
   (⟨⟨2, 2⟩, ⟨2, 3⟩⟩, .half), (⟨⟨2, 1⟩, ⟨2, 3⟩⟩, .half), (⟨⟨2, 1⟩, ⟨2, 2⟩⟩, .half), (⟨⟨2, 0⟩, ⟨2, 3⟩⟩, .half),
   (⟨⟨2, 0⟩, ⟨2, 2⟩⟩, .half), (⟨⟨2, 0⟩, ⟨2, 1⟩⟩, .half)]

/-- the reported rank pairs -/
def l₁ : List (RankPair × Wt) := [(.suited 0 1, .one)]
/-- the leftover view (a history again: the shadowed Q♠Q♥ entry is still there, behind the current one) -/
def o₁ : HandRange Wt :=
  [(⟨⟨7, 2⟩, ⟨7, 3⟩⟩, .half), (⟨⟨2, 0⟩, ⟨2, 1⟩⟩, .zero),
   (⟨⟨2, 2⟩, ⟨2, 3⟩⟩, .half), (⟨⟨2, 1⟩, ⟨2, 3⟩⟩, .half), (⟨⟨2, 1⟩, ⟨2, 2⟩⟩, .half), (⟨⟨2, 0⟩, ⟨2, 3⟩⟩, .half),
   (⟨⟨2, 0⟩, ⟨2, 2⟩⟩, .half), (⟨⟨2, 0⟩, ⟨2, 1⟩⟩, .half)]

def asks : Combo := ⟨⟨0, 0⟩, ⟨1, 0⟩⟩    -- A♠K♠
def qsqh : Combo := ⟨⟨2, 0⟩, ⟨2, 1⟩⟩    -- Q♠Q♥
def qdqc : Combo := ⟨⟨2, 2⟩, ⟨2, 3⟩⟩    -- Q♦Q♣
def c2s2h : Combo := ⟨⟨12, 0⟩, ⟨12, 1⟩⟩  -- 2♠2♥, absent

/-- the range really is a parsed one -/
theorem r₁_parsed : parseRange wtText txt = .ok r₁ := by decide +kernel
theorem r₁_dom : ∀ e ∈ r₁, wtDom e.2 := by decide
theorem asks_in_AKs : asks ∈ (RankPair.suited 0 1).combos := by decide
/-- `canonical` is a real restriction -/
example : ¬ RankPair.canonical (.suited 1 0) ∧ ¬ RankPair.canonical (.pocket 13) := by decide

theorem views_eval : rankPairs wtText r₁ = .ok l₁ ∧ orphans wtText r₁ = .ok o₁ := by decide +kernel

theorem C12_report_at_witness :
    ∃ l, rankPairs wtText r₁ = .ok l ∧
      ∀ rp w, rpLookup l rp = some w ↔ (RankPair.canonical rp ∧ ∀ c ∈ rp.combos, r₁.lookup c = some w) :=
  C12_report wtText wtDom wtextOk r₁ r₁_dom

/-- closed form: the list is the evaluated one -/
theorem C12_report_closed (rp : RankPair) (w : Wt) :
    rpLookup l₁ rp = some w ↔ (RankPair.canonical rp ∧ ∀ c ∈ rp.combos, r₁.lookup c = some w) :=
  Res.of_exists_ok C12_report_at_witness views_eval.1 rp w

/-- left to right at AKs: all four suited ace-kings are in the range with weight 1 -/
theorem AKs_complete : ∀ c ∈ (RankPair.suited 0 1).combos, r₁.lookup c = some Wt.one :=
  ((C12_report_closed (.suited 0 1) .one).mp (by decide)).2
example : (RankPair.suited 0 1).combos.all (fun c => r₁.lookup c == some Wt.one) = true := by decide

/-- right to left, contrapositive, at the queens: they are not reported at 0.5, so (being canonical) some
queen combo does not have weight 0.5 -/
theorem QQ_not_uniform : ¬ ∀ c ∈ (RankPair.pocket 2).combos, r₁.lookup c = some Wt.half := by
  intro h
  have := (C12_report_closed (.pocket 2) .half).mpr ⟨show 2 < 13 by decide, h⟩
  revert this
  decide
example : r₁.lookup qsqh = some Wt.zero ∧ r₁.lookup qdqc = some Wt.half := by decide

theorem C12_orphans_at_witness :
    ∃ l o, rankPairs wtText r₁ = .ok l ∧ orphans wtText r₁ = .ok o ∧
      ∀ c, ((∃ rp w, rpLookup l rp = some w ∧ c ∈ rp.combos) → o.lookup c = none)
         ∧ ((∀ rp w, rpLookup l rp = some w → c ∉ rp.combos) → o.lookup c = r₁.lookup c) :=
  C12_orphans wtText wtDom wtextOk r₁ r₁_dom

theorem C12_orphans_closed (c : Combo) :
    ((∃ rp w, rpLookup l₁ rp = some w ∧ c ∈ rp.combos) → o₁.lookup c = none)
    ∧ ((∀ rp w, rpLookup l₁ rp = some w → c ∉ rp.combos) → o₁.lookup c = r₁.lookup c) :=
  Res.of_exists_ok₂ C12_orphans_at_witness views_eval.1 views_eval.2 c

/-- first half at A♠K♠ (covered by AKs): not a leftover -/
theorem asks_not_orphan : o₁.lookup asks = none :=
  (C12_orphans_closed asks).1 ⟨.suited 0 1, .one, by decide, asks_in_AKs⟩
/-- cross-check by evaluation, also for leftovers: they keep their own (current) weights -/
example : o₁.lookup asks = none ∧ o₁.lookup qsqh = some Wt.zero ∧ o₁.lookup qdqc = some Wt.half
    ∧ o₁.lookup c2s2h = none := by decide

/-- contrapositive use: AKs and AKo are different canonical rank pairs, so A♠K♠ (a combo of AKs) is no combo of AKo -/
theorem C12_disjoint_at_witness : asks ∉ (RankPair.ofsuit 0 1).combos := by
  intro h
  have := C12_disjoint (.suited 0 1) (.ofsuit 0 1) (by decide) (by decide) asks asks_in_AKs h
  cases this
example : asks ∉ (RankPair.ofsuit 0 1).combos := by decide

theorem C12_cover_at_witness :
    ∃ l o, rankPairs wtText r₁ = .ok l ∧ orphans wtText r₁ = .ok o ∧
      ∀ c w, r₁.lookup c = some w →
        (o.lookup c = some w ∧ ∀ rp w', rpLookup l rp = some w' → c ∉ rp.combos)
        ∨ (o.lookup c = none ∧ ∃ rp, rpLookup l rp = some w ∧ c ∈ rp.combos
             ∧ ∀ rp' w', rpLookup l rp' = some w' → c ∈ rp'.combos → rp' = rp) :=
  C12_cover wtText wtDom wtextOk r₁ r₁_dom

/-- closed form at two combos of the range: Q♠Q♥ (weight 0) is a leftover, A♠K♠ (weight 1) is not -/
theorem C12_cover_closed :
    (o₁.lookup qsqh = some Wt.zero ∨ o₁.lookup qsqh = none)
    ∧ (o₁.lookup asks = some Wt.one ∨ (o₁.lookup asks = none ∧ ∃ rp, rpLookup l₁ rp = some Wt.one ∧ asks ∈ rp.combos)) := by
  have h := Res.of_exists_ok₂ C12_cover_at_witness views_eval.1 views_eval.2
  constructor
  · rcases h qsqh .zero (by decide) with h1 | h1
    · exact .inl h1.1
    · exact .inr h1.1
  · rcases h asks .one (by decide) with h1 | h1
    · exact .inl h1.1
    · obtain ⟨h2, rp, h3, h4, _⟩ := h1
      exact .inr ⟨h2, rp, h3, h4⟩
/-- which alternative holds, by evaluation -/
example : o₁.lookup qsqh = some Wt.zero ∧ o₁.lookup asks = none := by decide

example : (RankPair.pocket 9).combos.length = 6 := C12_sizes.1

end EspadaVerif.C12.Witness
