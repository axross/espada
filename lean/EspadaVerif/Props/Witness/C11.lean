/-
Non-vacuity witnesses for `Props/C11.lean`.

Data: the suit relabelling `σ` = spade → heart → diamond → spade, club fixed (a 3-cycle, not the identity);
flop A♠ K♦ 7♣ (codes 0, 6, 31); three players with weighted ranges in `Nat`
(Q♠Q♥ ×2, A♥K♥ ×3 | J♠T♠ ×1, Q♥J♥ ×5 | 8♦8♣ ×4); the seven cards A♠ K♦ Q♠ J♠ 9♠ 7♣ 2♠ (a spade flush).

`Spec.tally` ranges over the whole enumeration and goes through `Spec.best` (whose `List.mergeSort` the kernel
cannot unfold), so the two tally theorems are instantiated (hypotheses discharged, closed conclusion) but not
re-evaluated; the per-hand and per-deal statements are cross-checked by evaluation.
The model-side input (`flop`, the two-player `ranges`) and the deal `d₀` repeat the definitions of `Witness/C02.lean`
(definitionally equal); membership and showdown of `d₀` are taken from there.
-/
import EspadaVerif.Props.C11
import EspadaVerif.Props.Witness.C02


namespace EspadaVerif.C11.Witness
open Spec EspadaVerif.Witness

/-- spade → heart → diamond → spade, club ↦ club -/
def σ (s : Nat) : Nat := [1, 2, 0, 3].getD s s

def flopCodes : List Nat := [0, 6, 31]
def entries : List (List (Nat × Nat × Nat)) :=
  [[(8, 9, 2), (1, 5, 3)], [(12, 16, 1), (9, 13, 5)], [(26, 27, 4)]]
def seven : List Nat := [0, 6, 8, 12, 20, 31, 48]

def flop : List Card := [⟨0, 0⟩, ⟨1, 2⟩, ⟨7, 3⟩]
def ranges : List (List (Combo × Nat)) :=
  [[(⟨⟨2, 0⟩, ⟨2, 1⟩⟩, 2), (⟨⟨0, 1⟩, ⟨1, 1⟩⟩, 3)], [(⟨⟨3, 0⟩, ⟨4, 0⟩⟩, 1), (⟨⟨2, 1⟩, ⟨3, 1⟩⟩, 5)]]
/-- turn 2♥, river 2♣, A♥K♥ against Q♥J♥ -/
def d₀ : Deal Nat := { turn := 49, river := 51, choice := [(1, 5, 3), (9, 13, 5)] }

theorem σ_perm : SuitPerm σ := by
  refine ⟨by decide, ?_⟩
  intro s t hs ht h
  have key : ∀ s, s < 4 → ∀ t, t < 4 → σ s = σ t → s = t := by decide
  exact key s hs t ht h
/-- `σ` is not the identity: A♠ (0) becomes A♥ (1), K♦ (6) becomes K♠ (4), 7♣ stays -/
example : flopCodes.map (relabel σ) = [1, 4, 31] := by decide
example : relabelEntries σ entries = [[(9, 10, 2), (2, 6, 3)], [(13, 17, 1), (10, 14, 5)], [(24, 27, 4)]] := by decide

theorem d₀_mem : d₀ ∈ deals (flop.map Card.code) (C02.specEntries ranges) (46, 47) (48, 49) :=
  C02.Witness.d₀_mem

theorem C11_best_suit_at_witness :
    best ((seven.map (relabel σ)).map cardOfCode) = best (seven.map cardOfCode) :=
  C11_best_suit σ σ_perm seven (by decide)

/-- cross-check: both sides evaluated (the cards are in rank order, so the sort-free form applies): the spade
flush and its image, a heart flush, are both class 501 -/
theorem best_seven : best (seven.map cardOfCode) = 501 := by
  rw [best_sorted _ (by decide)]; decide +kernel
theorem best_seven_relabelled : best ((seven.map (relabel σ)).map cardOfCode) = 501 := by
  rw [best_sorted _ (by decide)]; decide +kernel
example : seven.map (relabel σ) = [1, 4, 9, 13, 21, 31, 49] := by decide

/-- the hypothesis is a real restriction: a map that merges two suits (diamond ↦ spade) is no `SuitPerm` -/
example : ¬ SuitPerm (fun s => if s = 2 then 0 else s) := by
  intro h
  have := h.2 0 2 (by decide) (by decide) (by decide)
  cases this

theorem C11_suits_at_witness (p k : Nat) :
    tally (flopCodes.map (relabel σ)) (relabelEntries σ entries) p k = tally flopCodes entries p k :=
  C11_suits σ σ_perm flopCodes entries ⟨by decide, by decide, by decide, by decide⟩ p k

/-- closed instance, both inputs written out: player 0's outright wins (`p = 0`, `k = 1`) -/
theorem C11_suits_closed :
    tally [1, 4, 31] [[(9, 10, 2), (2, 6, 3)], [(13, 17, 1), (10, 14, 5)], [(24, 27, 4)]] 0 1
      = tally [0, 6, 31] [[(8, 9, 2), (1, 5, 3)], [(12, 16, 1), (9, 13, 5)], [(26, 27, 4)]] 0 1 :=
  C11_suits_at_witness 0 1

theorem C11_players_at_witness (p k : Nat) :
    tally flopCodes (swapAt 1 entries) (swapIdx 1 p) k = tally flopCodes entries p k :=
  C11_players flopCodes entries 1 (by decide) p k

/-- closed instance: after exchanging players 1 and 2, the old player 1 is found at seat 2, player 0 stays -/
theorem C11_players_closed :
    tally flopCodes [[(8, 9, 2), (1, 5, 3)], [(26, 27, 4)], [(12, 16, 1), (9, 13, 5)]] 2 1
        = tally flopCodes entries 1 1
    ∧ tally flopCodes [[(8, 9, 2), (1, 5, 3)], [(26, 27, 4)], [(12, 16, 1), (9, 13, 5)]] 0 1
        = tally flopCodes entries 0 1 :=
  ⟨C11_players_at_witness 1 1, C11_players_at_witness 0 1⟩
example : swapAt 1 entries = [[(8, 9, 2), (1, 5, 3)], [(26, 27, 4)], [(12, 16, 1), (9, 13, 5)]]
    ∧ swapIdx 1 1 = 2 ∧ swapIdx 1 2 = 1 ∧ swapIdx 1 0 = 0 := by decide
/-- the hypothesis `i + 1 < entries.length` matters: there is no player 3 to exchange player 2 with -/
example : ¬ (2 + 1 < entries.length) := by decide

theorem C11_model_flags_at_witness :
    ∃ sd : Showdown Nat, C02.showdownOfDeal natOps flop d₀ = .ok (some sd)
      ∧ sd.players.map (·.hand) = dealHands (flop.map Card.code) d₀
      ∧ sd.players.map (·.win) = dealWins (flop.map Card.code) d₀ :=
  C11_model_flags natOps flop ranges (46, 47) (48, 49) C02.Witness.wf d₀ d₀_mem

/-- closed consequence: the specification's hands and winner flags of the deal (which the kernel cannot
evaluate directly) are those of the evaluated showdown -/
theorem C11_model_flags_closed :
    dealHands flopCodes d₀ = [2473, 5966] ∧ dealWins flopCodes d₀ = [true, false] := by
  obtain ⟨sd, h, hh, hw⟩ := C11_model_flags_at_witness
  cases C02.Witness.payload_eval.symm.trans h
  exact ⟨hh.symm, hw.symm⟩

theorem C11_pot_at_witness :
    1 ≤ (dealWins flopCodes d₀).countP id
    ∧ ((dealWins flopCodes d₀).filter id).length = (dealWins flopCodes d₀).countP id :=
  C11_pot flopCodes d₀ (by decide)

/-- cross-check with the flags just obtained: exactly one winner -/
example : (dealWins flopCodes d₀).countP id = 1 := by
  rw [C11_model_flags_closed.2]; decide

/-- the hypothesis matters: a deal without players has no winner -/
example : (dealWins flopCodes ({ turn := 49, river := 51, choice := [] } : Deal Nat)).countP id = 0 := by decide

theorem C11_pot_shares_at_witness : ((3 : Nat) : Rat) * (1 / ((3 : Nat) : Rat)) = 1 :=
  C11_pot_shares 3 (by decide)

end EspadaVerif.C11.Witness
