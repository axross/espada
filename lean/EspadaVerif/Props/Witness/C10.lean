/-
Non-vacuity witnesses for `Props/C10.lean`.

Weights: the concrete `Wt` = {0, 0.5, 1, 2} with domain `wtDom` = {0, 0.5, 1} (`Witness/Common.lean`): the value 2
exists in the type but is outside the domain, so "every parsed weight lies in the domain" and "the domain is
closed under the product" are real statements about this instance.
Data: the token text `AJs+:0.5`, the range text `AKs,7d7c:0.5` with its parsed history `r₀`, the weight list
[0.5, 1, 0.5], the deal "turn 2♥, river 2♣, A♥K♥ against Q♥J♥" on the flop A♠ K♦ 7♣, and a rounding function on
the rationals (round down to a multiple of 1/2).
Token, range text and history repeat the definitions of `Witness/C09.lean`, flop, ranges and deal those of `Witness/C02.lean`
(definitionally equal); what is evaluated about them is taken from there.
-/
import EspadaVerif.Props.C10
import EspadaVerif.Props.Witness.C02
import EspadaVerif.Props.Witness.C09


namespace EspadaVerif.C10.Witness
open TextDefs EspadaVerif.Witness

/-- `AJs+:0.5` -/
def tokTxt : Bytes := [65, 74, 115, 43, 58, 48, 46, 53]
def tok : Token Wt := ⟨.bottomClosed (.suited 0 3), .half⟩
/-- `AKs,7d7c:0.5` -/
def txt : Bytes := [65, 75, 115, 44, 55, 100, 55, 99, 58, 48, 46, 53]
def r₀ : HandRange Wt :=
  [(⟨⟨7, 2⟩, ⟨7, 3⟩⟩, .half), (⟨⟨0, 3⟩, ⟨1, 3⟩⟩, .one), (⟨⟨0, 2⟩, ⟨1, 2⟩⟩, .one), (⟨⟨0, 1⟩, ⟨1, 1⟩⟩, .one),
   (⟨⟨0, 0⟩, ⟨1, 0⟩⟩, .one)]
def ws : List Wt := [.half, .one, .half]

def flop : List Card := [⟨0, 0⟩, ⟨1, 2⟩, ⟨7, 3⟩]
def ranges : List (List (Combo × Nat)) :=
  [[(⟨⟨2, 0⟩, ⟨2, 1⟩⟩, 2), (⟨⟨0, 1⟩, ⟨1, 1⟩⟩, 3)], [(⟨⟨3, 0⟩, ⟨4, 0⟩⟩, 1), (⟨⟨2, 1⟩, ⟨3, 1⟩⟩, 5)]]
def d₀ : Spec.Deal Nat := { turn := 49, river := 51, choice := [(1, 5, 3), (9, 13, 5)] }

/-- round down to a multiple of 1/2 (and to 1 from 1 on): monotone, fixes 0 and 1, not the identity -/
def rnd (x : Rat) : Rat := if x < 1/2 then 0 else if x < 1 then 1/2 else 1

theorem tok_parses : parseToken wtText tokTxt = .ok tok := C09.Witness.tok_parses
theorem txt_parses : parseRange wtText txt = .ok r₀ := C09.Witness.txt_parses
theorem wf : C02.WfInput flop ranges := C02.Witness.wf
theorem d₀_mem : d₀ ∈ Spec.deals (flop.map Card.code) (C02.specEntries ranges) (46, 47) (48, 49) :=
  C02.Witness.d₀_mem

theorem rnd_mono : ∀ x y : Rat, x ≤ y → rnd x ≤ rnd y := by
  intro x y h
  unfold rnd
  -- a step function whose thresholds `1/2 < 1` and values `0 ≤ 1/2 ≤ 1` both increase: `x` is below every
  -- threshold that `y` is below
  by_cases h1 : y < 1/2
  · rw [if_pos h1, if_pos (Std.lt_of_le_of_lt h h1)]
    exact Rat.le_refl
  · rw [if_neg h1]
    by_cases h2 : y < 1
    · rw [if_pos h2, if_pos (Std.lt_of_le_of_lt h h2)]
      split <;> decide +kernel
    · rw [if_neg h2]
      split
      · decide +kernel
      · split <;> decide +kernel
example : rnd (3/4) = 1/2 := by decide +kernel

theorem C10_combo_at_witness : ∀ e ∈ r₀, ComboOk e.1 := C10_combo wtText txt r₀ txt_parses
/-- the same by evaluation -/
example : r₀.all (fun e => e.1.fst.valid && e.1.snd.valid && Card.lt e.1.fst e.1.snd) = true := by decide

theorem C10_weight_token_at_witness : wtDom tok.prob :=
  C10_weight_token wtText wtDom wtextOk.one_dom wtextOk.parse_dom wtextOk.parse_empty tokTxt tok tok_parses
example : tok.prob = Wt.half ∧ Wt.half ≠ Wt.two := by decide

theorem C10_weight_at_witness : ∀ e ∈ r₀, wtDom e.2 :=
  C10_weight wtText wtDom wtextOk.one_dom wtextOk.parse_dom wtextOk.parse_empty txt r₀ txt_parses
example : r₀.map (·.2) = [.half, .one, .one, .one, .one] := by decide

/-- why no parsed weight can be the out-of-domain value 2, although `wtText.parseW` does read "2": the token
grammar does not let the text "2" through -/
example : wtText.parseW [50] = some Wt.two ∧ isWeightText [50] = false
    ∧ parseToken wtText [65, 75, 115, 58, 50] = .err := by decide +kernel
/-- the hypothesis `hparse` is a real restriction on a text interface: one that reads "0.5" as 2 violates it -/
example : ¬ (∀ t w, isWeightText t = true → (fun t => if t = [48, 46, 53] then some Wt.two else wtText.parseW t) t = some w
    → wtDom w) := by
  intro h
  exact h [48, 46, 53] .two (by decide) (by decide) rfl

theorem C10_grammar_at_witness : isWeightText [48, 46, 53] = true ↔
    ([48, 46, 53] = [48] ∨ (∃ ds, ds ≠ [] ∧ (∀ d ∈ ds, 48 ≤ d ∧ d ≤ 57) ∧ [48, 46, 53] = 48 :: 46 :: ds)
     ∨ [48, 46, 53] = [49] ∨ (∃ zs, zs ≠ [] ∧ (∀ z ∈ zs, z = 48) ∧ [48, 46, 53] = 49 :: 46 :: zs)) :=
  C10_grammar [48, 46, 53]
/-- right to left, with the second alternative supplied: "0.5" is a weight text -/
example : isWeightText [48, 46, 53] = true :=
  C10_grammar_at_witness.mpr (.inr (.inl ⟨[53], by simp, by simp, rfl⟩))
/-- by evaluation (not through the theorem): "1.5", which satisfies no alternative, is not a weight text -/
example : isWeightText [49, 46, 53] = false := by decide

theorem C10_prob_at_witness : wtDom (ws.foldl wtOps.mul wtOps.one) :=
  C10_prob wtOps wtDom wtextOk.one_dom wtDom_mul ws (by decide)
example : ws.foldl wtOps.mul wtOps.one = Wt.half := by decide
/-- the hypothesis on the weights (`h`) is needed: with the value 2 among them the product leaves the domain -/
example : ¬ wtDom ([Wt.two].foldl wtOps.mul wtOps.one) := by decide

theorem C10_cards_at_witness :
    ∃ sd : Showdown Nat, C02.showdownOfDeal natOps flop d₀ = .ok (some sd)
      ∧ (sd.board ++ sd.players.flatMap (fun p => [p.hole.fst, p.hole.snd])).Nodup :=
  C10_cards natOps flop ranges (46, 47) (48, 49) wf d₀ d₀_mem
/-- by evaluation: the nine cards of that showdown -/
example : (match C02.showdownOfDeal natOps flop d₀ with
    | .ok (some sd) => some (sd.board ++ sd.players.flatMap (fun p => [p.hole.fst, p.hole.snd]))
    | _ => none)
    = some [⟨0, 0⟩, ⟨1, 2⟩, ⟨7, 3⟩, ⟨12, 1⟩, ⟨12, 3⟩, ⟨0, 1⟩, ⟨1, 1⟩, ⟨2, 1⟩, ⟨3, 1⟩] := by decide +kernel

theorem C10_prob_rounding_at_witness : 0 ≤ rnd ((3/4 : Rat) * (3/4)) ∧ rnd ((3/4 : Rat) * (3/4)) ≤ 1 :=
  C10_prob_rounding rnd rnd_mono (by decide +kernel) (by decide +kernel) (3/4) (3/4) (by decide +kernel) (by decide +kernel)
/-- by evaluation: 9/16 rounds to 1/2 -/
example : rnd ((3/4 : Rat) * (3/4)) = 1/2 := by decide +kernel

end EspadaVerif.C10.Witness
