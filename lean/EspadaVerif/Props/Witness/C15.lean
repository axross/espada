/-
Sanity instances for `Props/C15.lean`.

`C15_interleave` has no hypotheses (it is a universally quantified equation), so there is nothing to be
vacuous about; it is instantiated at three live iterators on the flop A♠ K♦ 7♣ with different ranges and
scopes, under a schedule that interleaves them unevenly, and both sides are also computed by the kernel.
-/
import EspadaVerif.Props.C15
import EspadaVerif.Props.Witness.Common


namespace EspadaVerif.C15.Witness
open EspadaVerif.Witness

def flop : List Card := [⟨0, 0⟩, ⟨1, 2⟩, ⟨7, 3⟩]
def deck : List Card := allCards.filter fun c => !flop.contains c
def board : List (Option Card) := flop.map some ++ [none, none]

/-- as in `Witness/C02.lean`: Q♠Q♥ (weight 2), A♥K♥ (3) against J♠T♠ (1), Q♥J♥ (5) -/
def rangesA : List (List (Combo × Nat)) :=
  [[(⟨⟨2, 0⟩, ⟨2, 1⟩⟩, 2), (⟨⟨0, 1⟩, ⟨1, 1⟩⟩, 3)], [(⟨⟨3, 0⟩, ⟨4, 0⟩⟩, 1), (⟨⟨2, 1⟩, ⟨3, 1⟩⟩, 5)]]
/-- K♠K♥ (weight 7) against 2♠2♥ (4), 9♦8♦ (9) -/
def rangesB : List (List (Combo × Nat)) :=
  [[(⟨⟨1, 0⟩, ⟨1, 1⟩⟩, 7)], [(⟨⟨12, 0⟩, ⟨12, 1⟩⟩, 4), (⟨⟨5, 2⟩, ⟨6, 2⟩⟩, 9)]]

/-- instance 0: ranges A from position (46,47) to the end -/
def s0 : IterState Nat :=
  { turnTo := 48, riverTo := 49, entries := rangesA, deck := deck, board := board, t := 46, r := 47, idx := [0, 0] }
/-- instance 1: ranges B from position (46,48) to the end; its first choice there is blocked (2♥ is the turn
and player 2's first combo is 2♠2♥), so its first `next()` skips -/
def s1 : IterState Nat :=
  { turnTo := 48, riverTo := 49, entries := rangesB, deck := deck, board := board, t := 46, r := 48, idx := [0, 0] }
/-- every other instance: ranges A, already exhausted -/
def s2 : IterState Nat :=
  { turnTo := 48, riverTo := 49, entries := rangesA, deck := deck, board := board, t := 48, r := 49, idx := [0, 0] }

def states : Nat → IterState Nat
  | 0 => s0
  | 1 => s1
  | _ => s2

def sched : List Nat := [0, 1, 1, 0, 2, 0, 1, 0, 1]

/-- the states are what `into_iter` produces for evaluators scoped that way -/
example : ({ board := board, ranges := rangesA, turnFrom := 46, riverFrom := 47, turnTo := 48, riverTo := 49 }
    : Evaluator Nat).intoIter = .ok s0 := by decide +kernel
example : ({ board := board, ranges := rangesB, turnFrom := 46, riverFrom := 48, turnTo := 48, riverTo := 49 }
    : Evaluator Nat).intoIter = .ok s1 := by decide +kernel

theorem C15_interleave_at_witness₀ :
    ((C15.interleaved natOps states sched).filter (fun x => x.1 == 0)).map (·.2) = C15.solo natOps 4 s0 :=
  C15.C15_interleave natOps sched states 0

theorem C15_interleave_at_witness₁ :
    ((C15.interleaved natOps states sched).filter (fun x => x.1 == 1)).map (·.2) = C15.solo natOps 4 s1 :=
  C15.C15_interleave natOps sched states 1

theorem C15_interleave_at_witness₂ :
    ((C15.interleaved natOps states sched).filter (fun x => x.1 == 2)).map (·.2) = C15.solo natOps 1 s2 :=
  C15.C15_interleave natOps sched states 2

/-- what the instances return alone: probabilities of the showdowns (`none` once exhausted) -/
def probs (l : List (Res (Option (Showdown Nat)))) : List (Option Nat) :=
  l.map fun r => match r with
    | .ok (some sd) => some sd.prob
    | _ => none

theorem solo0_eval : probs (C15.solo natOps 4 s0) = [some 2, some 3, some 15, some 2] := by decide +kernel
theorem solo1_eval : probs (C15.solo natOps 4 s1) = [some 63, some 28, some 63, none] := by decide +kernel

/-- the interleaved run, computed directly: tags and probabilities in schedule order -/
theorem interleaved_eval :
    (C15.interleaved natOps states sched).map (fun x => (x.1, (probs [x.2]).head!))
      = [(0, some 2), (1, some 63), (1, some 28), (0, some 3), (2, none), (0, some 15), (1, some 63), (0, some 2),
         (1, none)] := by
  decide +kernel

/-- the equation of `C15_interleave_at_witness₀`, checked by evaluating both sides in full -/
example : ((C15.interleaved natOps states sched).filter (fun x => x.1 == 0)).map (·.2) = C15.solo natOps 4 s0 := by
  decide +kernel

example : Gen.sharedStateHits = [] := C15.C15_no_shared_state

end EspadaVerif.C15.Witness
