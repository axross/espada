/-
Non-vacuity witnesses for `Props/C02.lean`.

Data: flop A♠ K♦ 7♣; two players with weights in `Nat` (product = multiplication):
  player 1: Q♠Q♥ (weight 2), A♥K♥ (weight 3);   player 2: J♠T♠ (weight 1), Q♥J♥ (weight 5).
Of the four choices one is never legal (both players would hold Q♥).  The theorems are instantiated at the
full scope (0,1)–(48,49) and at the last three positions `A`–`B` = (46,47)–(48,49), where turn and river are
among 2♥ 2♦ 2♣; there the model is also run by the kernel and compared with the specification.
-/
import EspadaVerif.Props.C02
import EspadaVerif.Props.Witness.Common
import EspadaVerif.Lemmas.Decide


namespace EspadaVerif.C02.Witness
open Spec EspadaVerif.Witness

def flop : List Card := [⟨0, 0⟩, ⟨1, 2⟩, ⟨7, 3⟩]
def ranges : List (List (Combo × Nat)) :=
  [[(⟨⟨2, 0⟩, ⟨2, 1⟩⟩, 2), (⟨⟨0, 1⟩, ⟨1, 1⟩⟩, 3)], [(⟨⟨3, 0⟩, ⟨4, 0⟩⟩, 1), (⟨⟨2, 1⟩, ⟨3, 1⟩⟩, 5)]]
def A : Nat × Nat := (46, 47)
def B : Nat × Nat := (48, 49)

def run (a b : Nat × Nat) (limit : Nat) : Res (List (Showdown Nat)) :=
  match (mkEvaluator flop ranges a b).intoIter with
  | .ok s =>
    match drainFuel natOps limit s [] with
    | .ok (l, _) => .ok l
    | .err => .err
    | .panic => .panic
  | .err => .err
  | .panic => .panic

/-- `run` once `intoIter` and the drain are known.  Stated for variables: on closed arguments the kernel, comparing
`run a b limit` with its unfolding, reduces the `match` first and so runs the whole drain. -/
theorem run_eq {a b : Nat × Nat} {limit : Nat} {s₀ sEnd : IterState Nat} {sds : List (Showdown Nat)}
    (h0 : (mkEvaluator flop ranges a b).intoIter = .ok s₀) (hd : drainFuel natOps limit s₀ [] = .ok (sds, sEnd)) :
    run a b limit = .ok sds := by
  simp only [run, h0, hd]

def specDeals (a b : Nat × Nat) : List (Deal Nat) := deals (flop.map Card.code) (specEntries ranges) a b

theorem positions_AB : positionsBetween A B = [(46, 47), (46, 48), (47, 48)] := IterLemmas.positions_last3

theorem wf : WfInput flop ranges := by decide
theorem scope_AB : ValidScope A B := by decide
/-- the data is not degenerate: two players, two entries each, weights not all 1 -/
example : ranges.length = 2 ∧ ranges.map List.length = [2, 2] ∧ (ranges.flatMap (·.map (·.2))) = [2, 3, 1, 5] := by decide

theorem C02_refines_at_witness :
    ∃ s₀ : IterState Nat, (mkEvaluator flop ranges (0, 1) (48, 49)).intoIter = .ok s₀ ∧
    ∃ (sds : List (Showdown Nat)) (sEnd : IterState Nat),
      (∀ limit, sds.length < limit → drainFuel natOps limit s₀ [] = .ok (sds, sEnd))
      ∧ (deals (flop.map Card.code) (specEntries ranges) (0, 1) (48, 49)).map (showdownOfDeal natOps flop)
          = sds.map (fun sd => .ok (some sd))
      ∧ next natOps sEnd = .ok (none, sEnd) :=
  C02_refines natOps flop ranges (0, 1) (48, 49) wf .full

/-- the specification evaluated directly: 3 positions × 3 legal choices -/
theorem specDeals_length : (specDeals A B).length = 9 := by
  -- the rewrite is for speed only: without it the kernel filters all 1176 positions
  rw [specDeals, IterLemmas.deals_of_positions positions_AB]
  decide +kernel
theorem specDeals_listed :
    (specDeals A B).map (fun d => (d.turn, d.river, d.choice.map (·.2.2)))
      = [(49, 50, [2, 1]), (49, 50, [3, 1]), (49, 50, [3, 5]),
         (49, 51, [2, 1]), (49, 51, [3, 1]), (49, 51, [3, 5]),
         (50, 51, [2, 1]), (50, 51, [3, 1]), (50, 51, [3, 5])] := by
  rw [specDeals, IterLemmas.deals_of_positions positions_AB]
  decide +kernel

/-- closed consequence of the theorem: a drain with room for 20 showdowns returns exactly nine, namely the
showdowns of the nine legal deals in the specification's order -/
theorem C02_refines_closed :
    ∃ sds : List (Showdown Nat), run A B 20 = .ok sds ∧ sds.length = 9
      ∧ (specDeals A B).map (showdownOfDeal natOps flop) = sds.map (fun sd => .ok (some sd)) := by
  obtain ⟨s₀, h0, sds, sEnd, hdrain, hspec, _⟩ := C02_refines natOps flop ranges A B wf scope_AB
  have hlen : sds.length = 9 := by
    have := congrArg List.length hspec
    rw [List.length_map, List.length_map] at this
    exact this.symm.trans specDeals_length
  exact ⟨sds, run_eq h0 (hdrain 20 (by omega)), hlen, hspec⟩

/-- cross-check by running the model in the kernel, with no use of `C02_refines`: same statement -/
theorem run_eval :
    (match run A B 20 with
     | .ok sds => decide (sds.length = 9
          ∧ (specDeals A B).map (showdownOfDeal natOps flop) = sds.map (fun sd => .ok (some sd)))
     | _ => false) = true := by
  rw [specDeals, IterLemmas.deals_of_positions positions_AB]
  decide +kernel

/-- what the run yields, listed: turn and river, each player's hand class and winner flag (two pair beats a
pair of deuces every time), the probability (products 2·1, 3·1, 3·5 taken from 1) -/
theorem run_listed :
    (match run A B 20 with
     | .ok sds => sds.map (fun sd => (sd.board.drop 3, sd.players.map (fun p => (p.hand, p.win)), sd.prob))
     | _ => []) =
    [([⟨12, 1⟩, ⟨12, 2⟩], [(2820, true), (5967, false)], 2),
     ([⟨12, 1⟩, ⟨12, 2⟩], [(2473, true), (5967, false)], 3),
     ([⟨12, 1⟩, ⟨12, 2⟩], [(2473, true), (5966, false)], 15),
     ([⟨12, 1⟩, ⟨12, 3⟩], [(2820, true), (5967, false)], 2),
     ([⟨12, 1⟩, ⟨12, 3⟩], [(2473, true), (5967, false)], 3),
     ([⟨12, 1⟩, ⟨12, 3⟩], [(2473, true), (5966, false)], 15),
     ([⟨12, 2⟩, ⟨12, 3⟩], [(2820, true), (5967, false)], 2),
     ([⟨12, 2⟩, ⟨12, 3⟩], [(2473, true), (5967, false)], 3),
     ([⟨12, 2⟩, ⟨12, 3⟩], [(2473, true), (5966, false)], 15)] := by decide +kernel

/-- the deal "turn 2♥, river 2♣, A♥K♥ against Q♥J♥" -/
def d₀ : Deal Nat := { turn := 49, river := 51, choice := [(1, 5, 3), (9, 13, 5)] }

theorem d₀_mem : d₀ ∈ deals (flop.map Card.code) (specEntries ranges) A B := by
  rw [IterLemmas.deals_of_positions positions_AB]
  decide +kernel

theorem C02_payload_at_witness :
    ∃ sd : Showdown Nat, showdownOfDeal natOps flop d₀ = .ok (some sd)
      ∧ sd.board = flop ++ [Card.ofCode d₀.turn, Card.ofCode d₀.river]
      ∧ sd.players.map (·.hole) = d₀.choice.map (fun c => (⟨Card.ofCode c.1, Card.ofCode c.2.1⟩ : Combo))
      ∧ sd.prob = d₀.choice.foldl (fun p c => natOps.mul p c.2.2) natOps.one
      ∧ (flop ++ [Card.ofCode d₀.turn, Card.ofCode d₀.river] ++ sd.players.flatMap (fun p => [p.hole.fst, p.hole.snd])).Nodup :=
  C02_payload natOps flop ranges A B wf d₀ d₀_mem

/-- cross-check by evaluation: the showdown of `d₀`, in full -/
theorem payload_eval :
    showdownOfDeal natOps flop d₀ = .ok (some
      { board := [⟨0, 0⟩, ⟨1, 2⟩, ⟨7, 3⟩, ⟨12, 1⟩, ⟨12, 3⟩],
        players := [⟨⟨⟨0, 1⟩, ⟨1, 1⟩⟩, 2473, true⟩, ⟨⟨⟨2, 1⟩, ⟨3, 1⟩⟩, 5966, false⟩],
        prob := 15 }) := by decide +kernel

/-- the membership hypothesis is a real restriction: the choice "Q♠Q♥ against Q♥J♥" is no deal of the scope -/
example : ({ turn := 49, river := 51, choice := [(8, 9, 2), (9, 13, 5)] } : Deal Nat)
    ∉ deals (flop.map Card.code) (specEntries ranges) A B := by
  rw [IterLemmas.deals_of_positions positions_AB]
  decide +kernel

end EspadaVerif.C02.Witness
