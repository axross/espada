/-
Non-vacuity witnesses for `Props/C06.lean`.

Weights: the concrete `Wt` = {0, 0.5, 1, 2}, domain `wtDom` = {0, 0.5, 1}, with `wtextOk : WTextOk wtText wtDom`
PROVED in `Witness/Common.lean` — so the assumption bundle of C06 is satisfiable, by a domain that contains
weights other than 1 and excludes a value of the type.
Data:
* tokens `A7s-A5s:0`, `Kd7c:0.5` (a single combo given as 7♣ K♦ and normalised), `KK+` (weight 1: no suffix);
* `r₁` : the twelve-insert history of `QQ:0.5,QsQh:0,AKs,7d7c:0.5` (a complete rank pair, six leftovers that
  do not form one, a lone leftover, one shadowed entry);
* `rMix` : the range parsed from `7d7c:0.5,AQo:0,AKs,KK+:0.5` (29 entries; a run of pocket pairs).
-/
import EspadaVerif.Props.C06
import EspadaVerif.Props.Witness.C17
import EspadaVerif.Lemmas.Decide


namespace EspadaVerif.C06.Witness
open TextDefs EspadaVerif.Witness

def tokA : Token Wt := ⟨.doubleClosed (.suited 0 7) 9, .zero⟩
def tokB : Token Wt := ⟨.singleCard (mkPair ⟨7, 3⟩ ⟨1, 2⟩), .half⟩
def tokC : Token Wt := ⟨.bottomClosed (.pocket 1), .one⟩

def r₁ : HandRange Wt :=
  [(⟨⟨7, 2⟩, ⟨7, 3⟩⟩, .half),
   (⟨⟨0, 3⟩, ⟨1, 3⟩⟩, .one), (⟨⟨0, 2⟩, ⟨1, 2⟩⟩, .one), (⟨⟨0, 1⟩, ⟨1, 1⟩⟩, .one), (⟨⟨0, 0⟩, ⟨1, 0⟩⟩, .one),
   (⟨⟨2, 0⟩, ⟨2, 1⟩⟩, .zero),
   (⟨⟨2, 2⟩, ⟨2, 3⟩⟩, .half), (⟨⟨2, 1⟩, ⟨2, 3⟩⟩, .half), (⟨⟨2, 1⟩, ⟨2, 2⟩⟩, .half), (⟨⟨2, 0⟩, ⟨2, 3⟩⟩, .half),
   (⟨⟨2, 0⟩, ⟨2, 2⟩⟩, .half), (⟨⟨2, 0⟩, ⟨2, 1⟩⟩, .half)]

/-- `7d7c:0.5,AQo:0,AKs,KK+:0.5` -/
def mixTxt : Bytes :=
  [55, 100, 55, 99, 58, 48, 46, 53, 44, 65, 81, 111, 58, 48, 44, 65, 75, 115, 44, 75, 75, 43, 58, 48, 46, 53]
def rMix : HandRange Wt :=
  match parseRange wtText mixTxt with
  | .ok r => r
  | _ => []

/-- the text the formatter writes for a range (empty if it failed) and what the parser makes of it -/
def textOf (r : HandRange Wt) : Bytes :=
  match showRange wtText r with
  | .ok t => t
  | _ => []
def reparsed (r : HandRange Wt) : HandRange Wt :=
  match parseRange wtText (textOf r) with
  | .ok r' => r'
  | _ => []

/- `textOf` and `reparsed` once the formatter's (and the parser's) result is known.  Stated for a variable range: on a
closed one the kernel, comparing `textOf r` with its unfolding, reduces the `match` first and runs the formatter. -/
theorem textOf_eq {r : HandRange Wt} {t : Bytes} (h : showRange wtText r = .ok t) : textOf r = t := by
  delta textOf
  rw [h]
theorem reparsed_eq {r r' : HandRange Wt} {t : Bytes} (h : showRange wtText r = .ok t)
    (h' : parseRange wtText t = .ok r') : reparsed r = r' := by
  delta reparsed
  rw [textOf_eq h, h']

/-- `r₁` and `rMix` repeat the definitions of `Witness/C17.lean`; the copies are definitionally equal, so the formatter runs
made there (`tokens_r₁`, `mix_tokens`: one run per range) apply to them -/
theorem text_r₁ : textOf r₁ = joinCommas (C17.Witness.toks₁.map (Token.show wtText)) :=
  textOf_eq (FormatFacts.showRange_of_tokens C17.Witness.tokens_r₁)
theorem text_rMix : showRange wtText rMix = .ok (joinCommas (C17.Witness.mixToks.map (Token.show wtText))) :=
  FormatFacts.showRange_of_tokens C17.Witness.mix_tokens

def asks : Combo := ⟨⟨0, 0⟩, ⟨1, 0⟩⟩
def qsqh : Combo := ⟨⟨2, 0⟩, ⟨2, 1⟩⟩
def qdqc : Combo := ⟨⟨2, 2⟩, ⟨2, 3⟩⟩
def c7d7c : Combo := ⟨⟨7, 2⟩, ⟨7, 3⟩⟩
def c2s2h : Combo := ⟨⟨12, 0⟩, ⟨12, 1⟩⟩

def rangeOk (r : HandRange Wt) : Bool :=
  r.all fun e => e.1.fst.valid && e.1.snd.valid && Card.lt e.1.fst e.1.snd && decide (wtDom e.2)

theorem r₁_ok : ∀ e ∈ r₁, ComboOk e.1 ∧ wtDom e.2 := by decide
theorem rMix_ok : ∀ e ∈ rMix, ComboOk e.1 ∧ wtDom e.2 := by decide +kernel
/-- the hypothesis is a real restriction: a weight outside the domain, or a key stored in the wrong order -/
example : rangeOk [(asks, .two)] = false ∧ rangeOk [(⟨⟨1, 0⟩, ⟨0, 0⟩⟩, .one)] = false := by decide

theorem C06_token_at_witness_A : parseToken wtText (tokA.show wtText) = .ok tokA :=
  C06_token wtText wtDom wtextOk tokA ⟨by decide, by decide, by decide⟩ (by decide)
theorem C06_token_at_witness_B : parseToken wtText (tokB.show wtText) = .ok tokB :=
  C06_token wtText wtDom wtextOk tokB ⟨⟨7, 3⟩, ⟨1, 2⟩, by decide, by decide, by decide, rfl⟩ (by decide)
theorem C06_token_at_witness_C : parseToken wtText (tokC.show wtText) = .ok tokC :=
  C06_token wtText wtDom wtextOk tokC (by decide : 1 < 13) (by decide)

/-- cross-check by evaluation: the three texts (`A7s-A5s:0`, `Kd7c:0.5`, `KK+`), and the parser run on them -/
example : tokA.show wtText = [65, 55, 115, 45, 65, 53, 115, 58, 48]
    ∧ tokB.show wtText = [75, 100, 55, 99, 58, 48, 46, 53] ∧ tokC.show wtText = [75, 75, 43] := by decide
example : parseToken wtText [65, 55, 115, 45, 65, 53, 115, 58, 48] = .ok tokA
    ∧ parseToken wtText [75, 100, 55, 99, 58, 48, 46, 53] = .ok tokB
    ∧ parseToken wtText [75, 75, 43] = .ok tokC := by decide +kernel

/-- both hypotheses matter: a weight outside the domain prints as `KK+:2`, which does not parse; a reversed span
(`TokenOk` asks for `9 < 7`) prints as `A5s-A7s`, which the parser rejects -/
example : parseToken wtText ((⟨.bottomClosed (.pocket 1), .two⟩ : Token Wt).show wtText) = .err
    ∧ parseToken wtText ((⟨.doubleClosed (.suited 0 9) 7, .one⟩ : Token Wt).show wtText) = .err := by decide +kernel

theorem C06_range_at_witness :
    ∃ txt r', showRange wtText r₁ = .ok txt ∧ parseRange wtText txt = .ok r' ∧ ∀ c, r'.lookup c = r₁.lookup c :=
  C06_range wtText wtDom wtextOk r₁ r₁_ok

theorem C06_range_at_witness_mix :
    ∃ txt r', showRange wtText rMix = .ok txt ∧ parseRange wtText txt = .ok r' ∧ ∀ c, r'.lookup c = rMix.lookup c :=
  C06_range wtText wtDom wtextOk rMix rMix_ok

/-- the text of `r₁`, evaluated: `AKs`, then the six queen combos and 7♦7♣ as leftovers -/
example : (textOf r₁).take 12 = [65, 75, 115, 44, 81, 115, 81, 104, 58, 48, 44, 81] ∧ (textOf r₁).length = 125 := by
  rw [text_r₁]
  decide +kernel

/-- closed form: the range re-read from its own text answers every question like `r₁` -/
theorem C06_range_closed : ∀ c, (reparsed r₁).lookup c = r₁.lookup c := by
  obtain ⟨t, r', h1, h2, h3⟩ := C06_range_at_witness
  rw [reparsed_eq h1 h2]
  exact h3

/-- cross-check at five combos, both sides evaluated: the overwritten Q♠Q♥ keeps its CURRENT weight 0 -/
example : [asks, qsqh, qdqc, c7d7c, c2s2h].map (reparsed r₁).lookup
    = [some .one, some .zero, some .half, some .half, none]
    ∧ [asks, qsqh, qdqc, c7d7c, c2s2h].map r₁.lookup = [some .one, some .zero, some .half, some .half, none] := by
  rw [reparsed, text_r₁]
  decide +kernel
/-- the re-read history is not the original history (different length): equality is of contents, as stated -/
example : (reparsed r₁).length = 18 ∧ r₁.length = 12 := by
  rw [reparsed, text_r₁]
  decide +kernel

/-- the mixed range: its canonical text is `KK+:0.5,AKs,AQo:0,7d7c:0.5,7d7c:0.5` and reading that back gives the
same weights -/
example : showRange wtText rMix
    = .ok [75, 75, 43, 58, 48, 46, 53, 44, 65, 75, 115, 44, 65, 81, 111, 58, 48, 44,
           55, 100, 55, 99, 58, 48, 46, 53, 44, 55, 100, 55, 99, 58, 48, 46, 53] := text_rMix
example : [asks, ⟨⟨0, 0⟩, ⟨2, 1⟩⟩, ⟨⟨1, 0⟩, ⟨1, 1⟩⟩, c7d7c, c2s2h].map (reparsed rMix).lookup
    = [some .one, some .zero, some .half, some .half, none] := by
  rw [reparsed, textOf_eq text_rMix]
  decide +kernel

end EspadaVerif.C06.Witness
