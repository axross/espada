/-
Non-vacuity witnesses for `Props/C07.lean`.

Data (board A♠ K♦ 7♣ 9♠ 2♠ throughout):
* `flushHand`  : hole Q♠ J♠ — an ace-high spade flush A Q J 9 2, class 501;
* `tripsHand`  : hole K♥ K♣ — three kings with A, 9, class 1679.
Both are given in the order the model hands them to the evaluator (hole cards, flop, turn, river), which is
not rank order; `…Sorted` are the same cards in rank order, used where the specification is evaluated
(`Spec.bestStrength` sorts with `List.mergeSort`, which the kernel cannot unfold; on rank-sorted input it
equals the sort-free `Witness.bestStrengthS`, see `Lemmas/ListAux.lean`).
The flush hand in both orders and the sorted trips hand repeat the definitions of `Witness/C01.lean` (definitionally equal);
what is evaluated about them is taken from there.
-/
import EspadaVerif.Props.C07
import EspadaVerif.Props.Witness.C01


namespace EspadaVerif.C07.Witness

def flushHand : List Card := [⟨2, 0⟩, ⟨3, 0⟩, ⟨0, 0⟩, ⟨1, 2⟩, ⟨7, 3⟩, ⟨5, 0⟩, ⟨12, 0⟩]
def flushSorted : List Card := [⟨0, 0⟩, ⟨1, 2⟩, ⟨2, 0⟩, ⟨3, 0⟩, ⟨5, 0⟩, ⟨7, 3⟩, ⟨12, 0⟩]
def tripsHand : List Card := [⟨1, 1⟩, ⟨1, 3⟩, ⟨0, 0⟩, ⟨1, 2⟩, ⟨7, 3⟩, ⟨5, 0⟩, ⟨12, 0⟩]
def tripsSorted : List Card := [⟨0, 0⟩, ⟨1, 1⟩, ⟨1, 2⟩, ⟨1, 3⟩, ⟨5, 0⟩, ⟨7, 3⟩, ⟨12, 0⟩]

theorem seven_tripsHand : C01.Seven tripsHand := by decide

theorem eval_tripsHand : eval7 tripsHand = .ok 1679 := by decide +kernel

theorem flush_perm : flushHand.Perm flushSorted := C01.Witness.flush_perm
theorem trips_perm : tripsHand.Perm tripsSorted := by decide

theorem C07_intervals_at_witness : handType 501 = Spec.catOfClass 501 :=
  C07.C07_intervals 501 (by decide) (by decide)
theorem C07_intervals_at_witness₂ : handType 1679 = Spec.catOfClass 1679 :=
  C07.C07_intervals 1679 (by decide) (by decide)
/-- by evaluation: a flush (category 5) and trips (category 3) -/
example : handType 501 = Spec.catFlush ∧ Spec.catOfClass 501 = 5 := by decide
example : handType 1679 = Spec.catTrips ∧ Spec.catOfClass 1679 = 3 := by decide
/-- outside the bounds `handType` still answers (0: straight flush; beyond 7462: high card, the wildcard arm) and
`handType_eq` holds there too; the bounds only mark the indexes the evaluator produces (`C01_index_range`) -/
example : handType 0 = Spec.catStraightFlush ∧ handType 7463 = Spec.catHighCard := by decide

theorem C07_at_witness :
    handType 501 = Spec.categoryOfStrength (Spec.bestStrength (flushHand.map C01.toSpec)) :=
  C07.C07 flushHand C01.Witness.seven_flushHand 501 C01.Witness.eval_flushHand

theorem C07_at_witness₂ :
    handType 1679 = Spec.categoryOfStrength (Spec.bestStrength (tripsHand.map C01.toSpec)) :=
  C07.C07 tripsHand seven_tripsHand 1679 eval_tripsHand

theorem C07_at_sorted :
    handType 501 = Spec.categoryOfStrength (Spec.bestStrength (flushSorted.map C01.toSpec)) :=
  C07.C07 flushSorted C01.Witness.seven_flushSorted 501 C01.Witness.eval_flushSorted

theorem C07_at_sorted₂ :
    handType 1679 = Spec.categoryOfStrength (Spec.bestStrength (tripsSorted.map C01.toSpec)) :=
  C07.C07 tripsSorted C01.Witness.seven_tripsSorted 1679 C01.Witness.eval_tripsSorted

/-! ### cross-check: the right-hand side evaluated independently of `C07` and of the tables -/

/-- the strongest five-card hand in the flush hand has strength 5·14⁵ + (13,11,10,8,1): a flush A Q J 9 2 -/
theorem bestStrength_flush : Spec.bestStrength (flushSorted.map C01.toSpec) = 3220785 :=
  C01.Witness.bestStrength_flushSorted
/-- three kings with ace and nine: 3·14⁵ + (12,13,8,0,0) -/
theorem bestStrength_trips : Spec.bestStrength (tripsSorted.map C01.toSpec) = 2111704 :=
  C01.Witness.bestStrength_tripsSorted

example : Spec.categoryOfStrength 3220785 = Spec.catFlush
    ∧ 3220785 = ((((5 * 14 + 13) * 14 + 11) * 14 + 10) * 14 + 8) * 14 + 1 := by decide
example : Spec.categoryOfStrength 2111704 = Spec.catTrips
    ∧ 2111704 = ((((3 * 14 + 12) * 14 + 13) * 14 + 8) * 14 + 0) * 14 + 0 := by decide

/-- both sides of `C07_at_sorted`, evaluated separately, agree -/
example : handType 501 = 5 ∧ Spec.categoryOfStrength (Spec.bestStrength (flushSorted.map C01.toSpec)) = 5 := by
  rw [bestStrength_flush]; decide
example : handType 1679 = 3 ∧ Spec.categoryOfStrength (Spec.bestStrength (tripsSorted.map C01.toSpec)) = 3 := by
  rw [bestStrength_trips]; decide

end EspadaVerif.C07.Witness
