/-
Non-vacuity witnesses for `Props/C17.lean`.

Weights: the concrete `Wt` with `wtText` of `Witness/Common.lean`.
Data:
* `r₁` / `r₂` : two different construction histories of the same range — `r₁` is the history of parsing
  `QQ:0.5,QsQh:0,AKs,7d7c:0.5` (twelve inserts, one of them shadowed), `r₂` holds the same eleven combos once
  each, in another order;
* `rps` : a table of reported rank pairs with weights 0.5 / 1 / 0 whose pocket row has four maximal runs
  (AA–KK, QQ, 99, 33–22) and whose "suited ace" row has three;
* `rMix` : the range parsed from `7d7c:0.5,AQo:0,AKs,KK+:0.5` (written in the reverse of the canonical order).
-/
import EspadaVerif.Props.C17
import EspadaVerif.Props.C06
import EspadaVerif.Props.Witness.C12


namespace EspadaVerif.C17.Witness
open EspadaVerif.Witness

def r₁ : HandRange Wt :=
  [(⟨⟨7, 2⟩, ⟨7, 3⟩⟩, .half),
   (⟨⟨0, 3⟩, ⟨1, 3⟩⟩, .one), (⟨⟨0, 2⟩, ⟨1, 2⟩⟩, .one), (⟨⟨0, 1⟩, ⟨1, 1⟩⟩, .one), (⟨⟨0, 0⟩, ⟨1, 0⟩⟩, .one),
   (⟨⟨2, 0⟩, ⟨2, 1⟩⟩, .zero),
   (⟨⟨2, 2⟩, ⟨2, 3⟩⟩, .half), (⟨⟨2, 1⟩, ⟨2, 3⟩⟩, .half), (⟨⟨2, 1⟩, ⟨2, 2⟩⟩, .half), (⟨⟨2, 0⟩, ⟨2, 3⟩⟩, .half),
   (⟨⟨2, 0⟩, ⟨2, 2⟩⟩, .half), (⟨⟨2, 0⟩, ⟨2, 1⟩⟩, .half)]

def r₂ : HandRange Wt :=
  [(⟨⟨2, 0⟩, ⟨2, 1⟩⟩, .zero), (⟨⟨0, 0⟩, ⟨1, 0⟩⟩, .one), (⟨⟨2, 0⟩, ⟨2, 2⟩⟩, .half), (⟨⟨0, 1⟩, ⟨1, 1⟩⟩, .one),
   (⟨⟨2, 0⟩, ⟨2, 3⟩⟩, .half), (⟨⟨0, 2⟩, ⟨1, 2⟩⟩, .one), (⟨⟨2, 1⟩, ⟨2, 2⟩⟩, .half), (⟨⟨0, 3⟩, ⟨1, 3⟩⟩, .one),
   (⟨⟨2, 1⟩, ⟨2, 3⟩⟩, .half), (⟨⟨7, 2⟩, ⟨7, 3⟩⟩, .half), (⟨⟨2, 2⟩, ⟨2, 3⟩⟩, .half)]

def rps : List (RankPair × Wt) :=
  [(.pocket 0, .half), (.pocket 1, .half), (.pocket 2, .one), (.pocket 5, .half), (.pocket 11, .half), (.pocket 12, .half),
   (.suited 0 1, .one), (.suited 0 2, .one), (.suited 0 3, .half), (.suited 0 7, .zero), (.suited 0 8, .zero),
   (.suited 0 9, .zero)]

/-- the pocket row of `rps` -/
def pocketRow : List (Option Wt) := (List.range' 0 13).map fun k => rpLookup rps (.pocket k)

/-- `7d7c:0.5,AQo:0,AKs,KK+:0.5` -/
def mixTxt : Bytes :=
  [55, 100, 55, 99, 58, 48, 46, 53, 44, 65, 81, 111, 58, 48, 44, 65, 75, 115, 44, 75, 75, 43, 58, 48, 46, 53]
def rMix : HandRange Wt :=
  match parseRange wtText mixTxt with
  | .ok r => r
  | _ => []
/-- `KK+:0.5`, `AKs`, `AQo:0`, `7d7c:0.5` twice (the known doubled leftover of equal ranks) -/
def mixToks : List (Token Wt) :=
  [⟨.bottomClosed (.pocket 1), .half⟩, ⟨.singleRank (.suited 0 1), .one⟩, ⟨.singleRank (.ofsuit 0 2), .zero⟩,
   ⟨.singleCard ⟨⟨7, 2⟩, ⟨7, 3⟩⟩, .half⟩, ⟨.singleCard ⟨⟨7, 2⟩, ⟨7, 3⟩⟩, .half⟩]

/-- the tokens of the canonical text of `r₁` and `r₂`: `AKs`, then the leftovers as the leftover pass meets them — it
visits the queens under every ordered pair of different suits, so each queen combo is written twice (Q♠Q♥ with its
current weight 0), and so is 7♦7♣ -/
def toks₁ : List (Token Wt) :=
  ⟨.singleRank (.suited 0 1), .one⟩ ::
    ((List.range 4).flatMap fun s => ((List.range 4).filter (· ≠ s)).map fun t =>
      ⟨.singleCard (mkPair ⟨2, s⟩ ⟨2, t⟩), if s + t = 1 then .zero else .half⟩)
    ++ List.replicate 2 ⟨.singleCard ⟨⟨7, 2⟩, ⟨7, 3⟩⟩, .half⟩

/-- the two histories answer every question alike -/
theorem same_contents : ∀ c, r₁.lookup c = r₂.lookup c :=
  -- an answer of a history is one of its current entries: it suffices that each history answers those of the other alike
  fun c => Option.ext fun w =>
    ⟨r₁.contents_hyp_of_current (P := fun c w => r₂.lookup c = some w) (by decide) c w,
      r₂.contents_hyp_of_current (P := fun c w => r₁.lookup c = some w) (by decide) c w⟩
/-- yet they are different histories -/
example : r₁ ≠ r₂ ∧ r₁.length = 12 ∧ r₂.length = 11 := by decide

theorem eq_refl : ∀ a, wtText.eq a a = true := by
  intro a
  simp [wtText]

theorem mix_parsed : parseRange wtText mixTxt = .ok rMix := by decide +kernel
/-- the formatter is run once on each range; every statement about a text below goes through these -/
theorem mix_tokens : showRangeTokens wtText rMix = .ok mixToks := by decide +kernel
/-- The runs on the two histories stand in one declaration: the kernel then shares what they have in common. -/
theorem tokens_eval : showRangeTokens wtText r₁ = .ok toks₁ ∧ showRangeTokens wtText r₂ = .ok toks₁ := by
  decide +kernel
theorem tokens_r₁ : showRangeTokens wtText r₁ = .ok toks₁ := tokens_eval.1
example : rMix.length = 29 := by decide +kernel

theorem C17_canonical_at_witness :
    showRange wtText r₁ = showRange wtText r₂ ∧ rankPairs wtText r₁ = rankPairs wtText r₂
    ∧ (∀ o₁ o₂, orphans wtText r₁ = .ok o₁ → orphans wtText r₂ = .ok o₂ → ∀ c, o₁.lookup c = o₂.lookup c) :=
  C17_canonical wtText r₁ r₂ same_contents

/-- cross-check by evaluating both texts and both rank-pair lists independently -/
theorem canonical_eval :
    showRange wtText r₁ = showRange wtText r₂ ∧ rankPairs wtText r₁ = .ok [(.suited 0 1, .one)]
    ∧ rankPairs wtText r₂ = .ok [(.suited 0 1, .one)] :=
  ⟨(FormatFacts.showRange_of_tokens tokens_r₁).trans (FormatFacts.showRange_of_tokens tokens_eval.2).symm, C12.Witness.views_eval.1,
    by decide +kernel⟩
/-- the hypothesis matters: change one weight and the text changes — the text determines the contents (`C06_range`),
and these differ at 7♦7♣ -/
example : showRange wtText r₁ ≠ showRange wtText ((⟨⟨7, 2⟩, ⟨7, 3⟩⟩, .zero) :: r₂) := by
  intro h
  obtain ⟨t, p, ht, hp, hc⟩ := C06.C06_range wtText wtDom wtextOk r₁ (by decide)
  obtain ⟨t', p', ht', hp', hc'⟩ := C06.C06_range wtText wtDom wtextOk ((⟨⟨7, 2⟩, ⟨7, 3⟩⟩, .zero) :: r₂) (by decide)
  cases Res.ok.inj ((ht.symm.trans h).trans ht')
  cases Res.ok.inj (hp.symm.trans hp')
  exact absurd ((hc _).symm.trans (hc' ⟨⟨7, 2⟩, ⟨7, 3⟩⟩)) (by decide)

theorem C17_runs_at_witness :
    rowTokens wtText rps 0 12 .pocket (List.range' 0 (13 - 0))
      = .ok ((Spec.runs wtText.eq ((List.range' 0 (13 - 0)).map fun k => rpLookup rps (.pocket k))).map
          (runToken 0 .pocket)) :=
  C17_runs wtText rps 0 (by decide) .pocket

/-- the row under the ace (`first = 1`) -/
theorem C17_runs_at_witness₁ :
    rowTokens wtText rps 1 12 (.suited 0) (List.range' 1 (13 - 1))
      = .ok ((Spec.runs wtText.eq ((List.range' 1 (13 - 1)).map fun k => rpLookup rps (.suited 0 k))).map
          (runToken 1 (.suited 0))) :=
  C17_runs wtText rps 1 (by decide) (.suited 0)

/-- cross-check: the formatter's state machine run by the kernel — `KK+:0.5, QQ, 99:0.5, 33-22:0.5` … -/
theorem rowTokens_eval :
    rowTokens wtText rps 0 12 .pocket (List.range' 0 13)
      = .ok [⟨.bottomClosed (.pocket 1), .half⟩, ⟨.singleRank (.pocket 2), .one⟩, ⟨.singleRank (.pocket 5), .half⟩,
             ⟨.doubleClosed (.pocket 11) 12, .half⟩] := by decide +kernel
/-- … and the specification's maximal runs of the same row, evaluated separately -/
theorem runs_eval : Spec.runs wtText.eq pocketRow = [(0, 2, .half), (2, 1, .one), (5, 1, .half), (11, 2, .half)] := by
  decide +kernel
/-- `AQs+, AJs:0.5, A7s-A5s:0` -/
theorem rowTokens_eval₁ :
    rowTokens wtText rps 1 12 (.suited 0) (List.range' 1 12)
      = .ok [⟨.bottomClosed (.suited 0 2), .one⟩, ⟨.singleRank (.suited 0 3), .half⟩,
             ⟨.doubleClosed (.suited 0 7) 9, .zero⟩] := by decide +kernel
/-- what the bound `first ≤ 12` of `C17_runs` leaves out: a row starting below the deuce, which has no cells -/
example : List.range' 13 (13 - 13) = [] := by decide

theorem C17_runs_maximal_at_witness :
    let rs := Spec.runs wtText.eq pocketRow
    (∀ run ∈ rs, 1 ≤ run.2.1 ∧ run.1 + run.2.1 ≤ pocketRow.length
        ∧ ∀ i, run.1 ≤ i → i < run.1 + run.2.1 → ∃ w', pocketRow[i]? = some (some w') ∧ wtText.eq w' run.2.2 = true)
    ∧ (∀ i w', pocketRow[i]? = some (some w') → ∃ run ∈ rs, run.1 ≤ i ∧ i < run.1 + run.2.1)
    ∧ List.Pairwise (fun a b => a.1 + a.2.1 ≤ b.1) rs
    ∧ (∀ k, ∀ a b, rs[k]? = some a → rs[k + 1]? = some b → a.1 + a.2.1 = b.1 →
          ∃ wb, pocketRow[b.1]? = some (some wb) ∧ wtText.eq wb a.2.2 = false) :=
  C17_runs_maximal wtText.eq eq_refl pocketRow

/-- closed instance of the last clause: the runs AA–KK and QQ touch, so their weights differ -/
theorem touching_runs_differ : ∃ wb, pocketRow[2]? = some (some wb) ∧ wtText.eq wb Wt.half = false := by
  have h := C17_runs_maximal_at_witness.2.2.2 0 (0, 2, .half) (2, 1, .one)
  rw [runs_eval] at h
  exact h rfl rfl rfl
example : pocketRow[2]? = some (some Wt.one) ∧ wtText.eq Wt.one Wt.half = false := by decide
/-- the hypothesis `hrefl` is a real restriction: NaN-like comparison (never equal) violates it -/
example : ¬ ∀ a : Wt, (fun _ _ => false) a a = true := by
  intro h; exact absurd (h .one) (by decide)

theorem C17_order_at_witness : List.Pairwise (fun a b => tokenRow a ≤ tokenRow b) mixToks :=
  C17_order wtText rMix mixToks mix_tokens
/-- by evaluation: pockets (row 0), suited ace (1), offsuit ace (2), leftovers (1000) — although the text listed
them in the opposite order -/
example : mixToks.map tokenRow = [0, 1, 2, 1000, 1000] := by decide
/-- and the canonical text is `KK+:0.5,AKs,AQo:0,7d7c:0.5,7d7c:0.5` -/
example : showRange wtText rMix
    = .ok [75, 75, 43, 58, 48, 46, 53, 44, 65, 75, 115, 44, 65, 81, 111, 58, 48, 44,
           55, 100, 55, 99, 58, 48, 46, 53, 44, 55, 100, 55, 99, 58, 48, 46, 53] :=
  FormatFacts.showRange_of_tokens mix_tokens

end EspadaVerif.C17.Witness
