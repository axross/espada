/-
Non-vacuity witnesses for `Props/C04.lean`.

Data: flop A♠ K♦ 7♣ and the same two weighted two-combo ranges as in `Witness/C02.lean` (weights 2, 3, 1, 5 in `Nat`);
the worker cuts (0,1) → (6,10) → (13,22) → (48,49) for the statements, and the one-position pieces
(46,47) → (46,48) → (47,48) → (48,49) where the specification is also evaluated by the kernel.
-/
import EspadaVerif.Props.C04
import EspadaVerif.Props.Witness.Common
import EspadaVerif.Lemmas.Decide


namespace EspadaVerif.C04.Witness
open Spec C02 EspadaVerif.Witness

def flop : List Card := [⟨0, 0⟩, ⟨1, 2⟩, ⟨7, 3⟩]
def ranges : List (List (Combo × Nat)) :=
  [[(⟨⟨2, 0⟩, ⟨2, 1⟩⟩, 2), (⟨⟨0, 1⟩, ⟨1, 1⟩⟩, 3)], [(⟨⟨3, 0⟩, ⟨4, 0⟩⟩, 1), (⟨⟨2, 1⟩, ⟨3, 1⟩⟩, 5)]]
def flopCodes : List Nat := [0, 6, 31]
def entries : List (List (Nat × Nat × Nat)) := [[(8, 9, 2), (1, 5, 3)], [(12, 16, 1), (9, 13, 5)]]

def cuts : List (Nat × Nat) := [(6, 10), (13, 22), (48, 49)]
def smallCuts : List (Nat × Nat) := [(46, 48), (47, 48), (48, 49)]

/-- the iterator of the empty scope (48,49)–(48,49): exhausted from the start -/
def sEnd : IterState Nat :=
  { turnTo := 48, riverTo := 49, entries := ranges,
    deck := (allCards.filter fun c => !flop.contains c),
    board := flop.map some ++ [none, none], t := 48, r := 49, idx := [0, 0] }

theorem wf : WfInput flop ranges := by decide
example : flop.map Card.code = flopCodes ∧ specEntries ranges = entries := by decide

theorem scope_mid : ValidScope (6, 10) (13, 22) := by decide
theorem smallChain_ok : ∀ xy ∈ ((46, 47) :: smallCuts).zip smallCuts, ValidScope xy.1 xy.2 := by decide

theorem sEnd_is_start : (mkEvaluator flop ranges (48, 49) (48, 49)).intoIter = .ok sEnd := by decide +kernel
/-- the stop test holds at `sEnd`: position and bound are both (48, 49) -/
theorem sEnd_exhausted : next natOps sEnd = .ok (none, sEnd) :=
  (IterLemmas.Halts.nil (IterLemmas.step_done natOps (s := sEnd) ⟨Nat.le_refl _, Nat.le_refl _⟩)).drain.2

theorem C04_scoped_at_witness :
    ∃ s₀ : IterState Nat, (mkEvaluator flop ranges (6, 10) (13, 22)).intoIter = .ok s₀ ∧
    ∃ (sds : List (Showdown Nat)) (sEnd : IterState Nat),
      (∀ limit, sds.length < limit → drainFuel natOps limit s₀ [] = .ok (sds, sEnd))
      ∧ (deals (flop.map Card.code) (specEntries ranges) (6, 10) (13, 22)).map (showdownOfDeal natOps flop)
          = sds.map (fun sd => .ok (some sd))
      ∧ next natOps sEnd = .ok (none, sEnd) :=
  C04_scoped natOps flop ranges (6, 10) (13, 22) wf scope_mid

theorem C04_exhausted_at_witness : nextN natOps 5 sEnd = .ok (List.replicate 5 none, sEnd) :=
  C04_exhausted natOps sEnd sEnd_exhausted 5
/-- the same by running `next` five times in the kernel -/
example : nextN natOps 5 sEnd = .ok ([none, none, none, none, none], sEnd) := by decide +kernel

/-- and for the end state whose existence `C04_scoped` asserts (hypothesis supplied by that theorem) -/
theorem C04_exhausted_after_scope :
    ∃ s : IterState Nat, next natOps s = .ok (none, s) ∧ nextN natOps 1000 s = .ok (List.replicate 1000 none, s) := by
  obtain ⟨_, _, _, s, _, _, hend⟩ := C04_scoped_at_witness
  exact ⟨s, hend, C04_exhausted natOps s hend 1000⟩

theorem deals_append_at_witness :
    deals flopCodes entries (0, 1) (6, 10) ++ deals flopCodes entries (6, 10) (13, 22)
      = deals flopCodes entries (0, 1) (13, 22) :=
  deals_append flopCodes entries (0, 1) (6, 10) (13, 22)
    (by decide) scope_mid

theorem C04_chain_at_witness :
    (((0, 1) :: cuts).zip cuts).flatMap (fun xy => deals flopCodes entries xy.1 xy.2)
      = deals flopCodes entries (0, 1) (((0, 1) :: cuts).getLast (by simp)) :=
  C04_chain flopCodes entries (0, 1) cuts (by decide)

/-- closed form: the three workers' pieces make up the whole enumeration -/
theorem C04_chain_closed :
    deals flopCodes entries (0, 1) (6, 10) ++ (deals flopCodes entries (6, 10) (13, 22)
      ++ deals flopCodes entries (13, 22) (48, 49)) = deals flopCodes entries (0, 1) (48, 49) := by
  have h := C04_chain_at_witness
  simpa [cuts] using h

theorem C04_chain_at_small :
    (((46, 47) :: smallCuts).zip smallCuts).flatMap (fun xy => deals flopCodes entries xy.1 xy.2)
      = deals flopCodes entries (46, 47) (((46, 47) :: smallCuts).getLast (by simp)) :=
  C04_chain flopCodes entries (46, 47) smallCuts smallChain_ok

/-- cross-check by evaluating the specification on both sides: three one-position pieces (three legal deals
each) against the three-position scope -/
theorem small_pieces_eval :
    deals flopCodes entries (46, 47) (46, 48) ++ (deals flopCodes entries (46, 48) (47, 48)
      ++ deals flopCodes entries (47, 48) (48, 49)) = deals flopCodes entries (46, 47) (48, 49) := by
  rw [IterLemmas.deals_of_positions (b := (46, 48)) (IterLemmas.positionsBetween_next (p := (46, 47)) (by decide)),
    IterLemmas.deals_of_positions (b := (47, 48)) (IterLemmas.positionsBetween_next (p := (46, 48)) (by decide)),
    IterLemmas.deals_of_positions (b := (48, 49)) (IterLemmas.positionsBetween_next (p := (47, 48)) (by decide)),
    IterLemmas.deals_of_positions IterLemmas.positions_last3]
  decide +kernel
example : (deals flopCodes entries (46, 48) (47, 48)).map (fun d => (d.turn, d.river, d.choice.map (·.2.2)))
    = [(49, 51, [2, 1]), (49, 51, [3, 1]), (49, 51, [3, 5])] := by
  rw [IterLemmas.deals_of_positions (b := (47, 48)) (IterLemmas.positionsBetween_next (p := (46, 48)) (by decide))]
  decide +kernel

/-- the chain hypothesis is a real restriction: a cut that steps backwards is not a valid scope -/
example : posLe (13, 22) (6, 10) = false := by decide

example : Evaluator.new (flop.map some ++ [none, none]) ranges = mkEvaluator flop ranges (0, 1) (48, 49) :=
  C04_default_scope flop ranges

def e₀ : Evaluator Nat := mkEvaluator flop ranges (0, 1) (48, 49)
def e₁ : Evaluator Nat := { e₀ with turnFrom := 6, riverFrom := 10, turnTo := 13, riverTo := 22 }

/-- the hypothesis: the first `scope()` call (in a debug build, so its three assertions are checked) succeeds -/
theorem first_scope : e₀.scope 6 10 13 22 true = .ok e₁ := rfl

theorem C04_rescope_at_witness : e₁.scope 13 22 20 34 true = e₀.scope 13 22 20 34 true :=
  C04_rescope e₀ e₁ (6, 10, 13, 22) (13, 22, 20, 34) true first_scope

/-- cross-check: both calls give the evaluator scoped to (13,22)–(20,34) -/
example : e₁.scope 13 22 20 34 true
    = .ok { e₀ with turnFrom := 13, riverFrom := 22, turnTo := 20, riverTo := 34 } := rfl
example : e₀.scope 13 22 20 34 true
    = .ok { e₀ with turnFrom := 13, riverFrom := 22, turnTo := 20, riverTo := 34 } := rfl
/-- in a debug build an ill-ordered first call panics, so the hypothesis of `C04_rescope` fails for it -/
example (e' : Evaluator Nat) : e₀.scope 13 22 6 10 true ≠ .ok e' := by
  intro h; cases h

end EspadaVerif.C04.Witness
