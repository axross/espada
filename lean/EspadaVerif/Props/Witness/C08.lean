/-
Non-vacuity witnesses for `Props/C08.lean`.

Data: flop A♠ K♦ 7♣; `ranges` = the same two weighted two-combo ranges as in `Witness/C02.lean` (weights 2, 3, 1, 5 in
`Nat`); `rangesE` = player 1 as in `ranges`, player 2 with an EMPTY range (the hypothesis of `C08_empty`); scopes:
the full one and the last three positions `A`–`B` = (46,47)–(48,49), where the model is also run in the kernel.
-/
import EspadaVerif.Props.C08
import EspadaVerif.Props.Witness.Common
import EspadaVerif.Lemmas.Decide


namespace EspadaVerif.C08.Witness
open Spec C02 EspadaVerif.Witness

def flop : List Card := [⟨0, 0⟩, ⟨1, 2⟩, ⟨7, 3⟩]
def ranges : List (List (Combo × Nat)) :=
  [[(⟨⟨2, 0⟩, ⟨2, 1⟩⟩, 2), (⟨⟨0, 1⟩, ⟨1, 1⟩⟩, 3)], [(⟨⟨3, 0⟩, ⟨4, 0⟩⟩, 1), (⟨⟨2, 1⟩, ⟨3, 1⟩⟩, 5)]]
def rangesE : List (List (Combo × Nat)) :=
  [[(⟨⟨2, 0⟩, ⟨2, 1⟩⟩, 2), (⟨⟨0, 1⟩, ⟨1, 1⟩⟩, 3)], []]
def A : Nat × Nat := (46, 47)
def B : Nat × Nat := (48, 49)

/-- `none` = panic or out of fuel -/
def drained (rs : List (List (Combo × Nat))) (a b : Nat × Nat) (limit : Nat) : Option Nat :=
  match (mkEvaluator flop rs a b).intoIter with
  | .ok s =>
    match drainFuel natOps limit s [] with
    | .ok (l, _) => some l.length
    | _ => none
  | _ => none

/-- `drained` once `intoIter` and the drain are known (for variables: see `C02.Witness.run_eq`) -/
theorem drained_eq {rs : List (List (Combo × Nat))} {a b : Nat × Nat} {limit : Nat} {s₀ s' : IterState Nat}
    {sds : List (Showdown Nat)} (h0 : (mkEvaluator flop rs a b).intoIter = .ok s₀)
    (hd : drainFuel natOps limit s₀ [] = .ok (sds, s')) : drained rs a b limit = some sds.length := by
  simp only [drained, h0, hd]

theorem wf : WfInput flop ranges := by decide
theorem wfE : WfInput flop rangesE := by decide
theorem scope_AB : ValidScope A B := by decide

theorem C08_total_at_witness :
    ∃ s₀ : IterState Nat, (mkEvaluator flop ranges (0, 1) (48, 49)).intoIter = .ok s₀ ∧
      ∀ limit, ∃ sds s', drainFuel natOps limit s₀ [] = .ok (sds, s') :=
  C08_total natOps flop ranges (0, 1) (48, 49) wf .full

/-- closed consequence: whatever the limit, the run on the scope is neither a panic nor out of fuel -/
theorem C08_total_closed (limit : Nat) : (drained ranges A B limit).isSome = true := by
  obtain ⟨s₀, h0, h⟩ := C08_total natOps flop ranges A B wf scope_AB
  obtain ⟨sds, s', hd⟩ := h limit
  rw [drained_eq h0 hd]
  rfl

/-- cross-check by running the model: a limit below, at and above the nine showdowns of the scope -/
example : drained ranges A B 3 = some 3 ∧ drained ranges A B 9 = some 9 ∧ drained ranges A B 50 = some 9 := by
  decide +kernel

theorem C08_empty_at_witness :
    ∃ s₀ : IterState Nat, (mkEvaluator flop rangesE (0, 1) (48, 49)).intoIter = .ok s₀ ∧
      ∀ limit, drainFuel natOps (limit + 1) s₀ [] = .ok ([], s₀) :=
  C08_empty natOps flop rangesE (0, 1) (48, 49) wfE .full (by decide)

theorem C08_empty_closed (limit : Nat) : drained rangesE (0, 1) (48, 49) (limit + 1) = some 0 := by
  obtain ⟨s₀, h0, h⟩ := C08_empty_at_witness
  exact drained_eq h0 (h limit)

/-- the same by running the model (the full scope: the emptiness test comes before any position is tried) -/
example : drained rangesE (0, 1) (48, 49) 7 = some 0 := by decide +kernel

theorem C08_yield_bound_at_witness :
    (deals (flop.map Card.code) (specEntries ranges) (0, 1) (48, 49)).length
      ≤ 1176 * (ranges.map List.length).foldl (· * ·) 1 :=
  C08_yield_bound natOps flop ranges (0, 1) (48, 49) wf .full

theorem C08_yield_bound_at_scope :
    (deals (flop.map Card.code) (specEntries ranges) A B).length
      ≤ 1176 * (ranges.map List.length).foldl (· * ·) 1 :=
  C08_yield_bound natOps flop ranges A B wf scope_AB

/-- both sides evaluated: 9 ≤ 1176 · 4 (1176 = C(49,2) positions, 4 = 2 · 2 choices) -/
example : (deals (flop.map Card.code) (specEntries ranges) A B).length = 9
    ∧ 1176 * (ranges.map List.length).foldl (· * ·) 1 = 4704 := by
  rw [IterLemmas.deals_of_positions (a := A) (b := B) IterLemmas.positions_last3]
  decide +kernel

example : Gen.nextSelfCalls = 0 := C08_no_recursion

end EspadaVerif.C08.Witness
