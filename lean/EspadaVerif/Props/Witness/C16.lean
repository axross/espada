/-
Non-vacuity witnesses for `Props/C16.lean`.

Data: seven workers; two concrete "float pipelines": `F₁` a plausible even split with small river
offsets, `F₂` a hostile one whose values leave the `u8` range and the 48 rows (so the `% 256`, the
"turn ≥ 48" branch and the no-step-backwards clamp are all exercised).  For `C16_sum`: the flop
A♠ K♦ 7♣ (codes 0, 6, 31) and two players with two weighted combos each (weights 2, 3, 1, 5 in `Nat`).
-/
import EspadaVerif.Props.C16
import EspadaVerif.Props.Witness.Common


namespace EspadaVerif.C16.Witness
open Spec C02

def workers : Nat := 7
def F₁ (i n : Nat) : Nat × Nat := ((i + 1) * 48 / n, 5 * i + 3)
def F₂ (i n : Nat) : Nat × Nat := ((i + 1) * 300 / n, 77 * i + 3)

/-- A♠ K♦ 7♣ as card codes -/
def flop : List Nat := [0, 6, 31]
/-- player 1: Q♠Q♥ (weight 2), A♥K♥ (weight 3); player 2: J♠T♠ (weight 1), Q♥J♥ (weight 5) -/
def entries : List (List (Nat × Nat × Nat)) :=
  [[(8, 9, 2), (1, 5, 3)], [(12, 16, 1), (9, 13, 5)]]

def scopes₁ : List CalcScope :=
  [⟨0, 1, 6, 10⟩, ⟨6, 10, 13, 22⟩, ⟨13, 22, 20, 34⟩, ⟨20, 34, 27, 46⟩, ⟨27, 46, 35, 36⟩,
   ⟨35, 36, 42, 43⟩, ⟨42, 43, 48, 49⟩]
def scopes₂ : List CalcScope :=
  [⟨0, 1, 42, 46⟩, ⟨42, 46, 48, 49⟩, ⟨48, 49, 48, 49⟩, ⟨48, 49, 48, 49⟩, ⟨48, 49, 48, 49⟩,
   ⟨48, 49, 48, 49⟩, ⟨48, 49, 48, 49⟩]

theorem workers_pos : 1 ≤ workers := by decide

theorem C16_tiles_at_witness :
    ∃ l : List CalcScope, calculateScopes F₁ workers = .ok l ∧ l.length = workers
      ∧ (l.head?.map fun s => (s.turnFrom, s.riverFrom)) = some (0, 1)
      ∧ (l.getLast?.map fun s => (s.turnTo, s.riverTo)) = some (48, 49)
      ∧ (∀ k s s', l[k]? = some s → l[k + 1]? = some s' → (s'.turnFrom, s'.riverFrom) = (s.turnTo, s.riverTo))
      ∧ (∀ s ∈ l, ValidScope (s.turnFrom, s.riverFrom) (s.turnTo, s.riverTo)) :=
  C16.C16_tiles F₁ workers workers_pos

theorem C16_tiles_at_witness₂ :
    ∃ l : List CalcScope, calculateScopes F₂ workers = .ok l ∧ l.length = workers
      ∧ (l.head?.map fun s => (s.turnFrom, s.riverFrom)) = some (0, 1)
      ∧ (l.getLast?.map fun s => (s.turnTo, s.riverTo)) = some (48, 49)
      ∧ (∀ k s s', l[k]? = some s → l[k + 1]? = some s' → (s'.turnFrom, s'.riverFrom) = (s.turnTo, s.riverTo))
      ∧ (∀ s ∈ l, ValidScope (s.turnFrom, s.riverFrom) (s.turnTo, s.riverTo)) :=
  C16.C16_tiles F₂ workers workers_pos

/-- independent evaluation: the concrete scope lists -/
theorem scopes₁_eval : calculateScopes F₁ workers = .ok scopes₁ := by decide
theorem scopes₂_eval : calculateScopes F₂ workers = .ok scopes₂ := by decide

/-- the list whose existence `C16_tiles` asserts is the evaluated one, so its conclusions are closed facts
about `scopes₁` -/
theorem C16_tiles_closed :
    scopes₁.length = 7
      ∧ (scopes₁.head?.map fun s => (s.turnFrom, s.riverFrom)) = some (0, 1)
      ∧ (scopes₁.getLast?.map fun s => (s.turnTo, s.riverTo)) = some (48, 49)
      ∧ (∀ s ∈ scopes₁, ValidScope (s.turnFrom, s.riverFrom) (s.turnTo, s.riverTo)) :=
  have ⟨h1, h2, h3, _, h5⟩ := Res.of_exists_ok C16_tiles_at_witness scopes₁_eval
  ⟨h1, h2, h3, h5⟩

/-- the same facts by evaluation only (no use of `C16_tiles`) -/
example : scopes₁.length = 7
    ∧ (scopes₁.head?.map fun s => (s.turnFrom, s.riverFrom)) = some (0, 1)
    ∧ (scopes₁.getLast?.map fun s => (s.turnTo, s.riverTo)) = some (48, 49)
    ∧ (scopes₁.zip scopes₁.tail).all (fun (s, s') => (s'.turnFrom, s'.riverFrom) == (s.turnTo, s.riverTo)) = true
    ∧ scopes₁.all (fun s => validPos (s.turnFrom, s.riverFrom) && validPos (s.turnTo, s.riverTo)
        && posLe (s.turnFrom, s.riverFrom) (s.turnTo, s.riverTo)) = true := by decide

/-- the hypothesis `1 ≤ n` matters: with no worker there is no scope, hence no start at (0,1) -/
example : calculateScopes F₁ 0 = .ok [] := by decide

/-- one worker: the single scope is the whole enumeration -/
example : calculateScopes F₂ 1 = .ok [⟨0, 1, 48, 49⟩] := by decide

theorem C16_sum_at_witness :
    ∃ l : List CalcScope, calculateScopes F₁ workers = .ok l ∧
      l.flatMap (fun s => deals flop entries (s.turnFrom, s.riverFrom) (s.turnTo, s.riverTo))
        = deals flop entries (0, 1) (48, 49) :=
  C16.C16_sum F₁ workers workers_pos flop entries

/-- closed form: the seven concrete pieces concatenate to the full enumeration -/
theorem C16_sum_closed :
    scopes₁.flatMap (fun s => deals flop entries (s.turnFrom, s.riverFrom) (s.turnTo, s.riverTo))
      = deals flop entries (0, 1) (48, 49) :=
  Res.of_exists_ok C16_sum_at_witness scopes₁_eval

/-- cross-check by evaluation on the last piece: 21 positions × 3 legal choices (of the 4 choices one is
illegal: both players would hold Q♥), and no turn/river card there collides with a hole card -/
theorem last_piece_size : (deals flop entries (42, 43) (48, 49)).length = 63 := by decide +kernel
/-- the first two positions, listed: the turn A♥ (code 1) blocks A♥K♥, and Q♥ cannot be held twice, so one
choice of four survives at each position -/
theorem first_positions :
    (deals flop entries (0, 1) (0, 3)).map (fun d => (d.turn, d.river, d.choice))
      = [(1, 2, [(8, 9, 2), (12, 16, 1)]), (1, 3, [(8, 9, 2), (12, 16, 1)])] := by
  rw [IterLemmas.deals_of_positions (ps := [(0, 1), (0, 2)]) (by
    simp (disch := decide) [IterLemmas.positionsBetween_step, IterLemmas.nextPos, IterLemmas.positionsBetween_self])]
  decide +kernel

end EspadaVerif.C16.Witness
