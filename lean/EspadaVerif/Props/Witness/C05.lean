/-
Non-vacuity witnesses for `Props/C05.lean`.

Weights: the concrete `Wt` = {0, 0.5, 1, 2} with text interface `wtText` of `Witness/Common.lean`
(`wtextOk.parse_empty` is the hypothesis `wt.parseW [] = none`).
Data:
* the token `AJs+` (`pairPlus 0 3 true`: AKs, AQs, AJs = 12 combos) with the suffix `:0.5`;
* the list  ` KK+:0.5, AKs,AsKs:0 ,7d7c:0.5 `  (spaces included): a run of pocket pairs at weight 0.5, the four
  suited ace-kings at weight 1, then A♠K♠ again at weight 0 (an OVERLAP: the later token must win), and the
  single combo 7♦7♣ at weight 0.5.
-/
import EspadaVerif.Props.C05
import EspadaVerif.Props.Witness.Common
import EspadaVerif.Lemmas.Decide


namespace EspadaVerif.C05.Witness
open Spec TextDefs EspadaVerif.Witness

/-- `AJs+` -/
def tok₁ : WfToken := .pairPlus 0 3 true
/-- `:0.5` -/
def suf₁ : Bytes := [58, 48, 46, 53]

/-- `KK+:0.5`, `AKs`, `AsKs:0`, `7d7c:0.5` -/
def toks : List (WfToken × Bytes) :=
  [(.pocketPlus 1, [58, 48, 46, 53]), (.pair 0 1 true, []), (.cards 0 4, [58, 48]), (.cards 30 31, [58, 48, 46, 53])]

/-- ` KK+:0.5, AKs,AsKs:0 ,7d7c:0.5 ` -/
def txt : Bytes :=
  [32, 75, 75, 43, 58, 48, 46, 53, 44, 32, 65, 75, 115, 44, 65, 115, 75, 115, 58, 48, 32, 44,
   55, 100, 55, 99, 58, 48, 46, 53, 32]

def asks : Combo := ⟨⟨0, 0⟩, ⟨1, 0⟩⟩   -- A♠K♠
def ahkh : Combo := ⟨⟨0, 1⟩, ⟨1, 1⟩⟩   -- A♥K♥
def kskh : Combo := ⟨⟨1, 0⟩, ⟨1, 1⟩⟩   -- K♠K♥
def c7d7c : Combo := ⟨⟨7, 2⟩, ⟨7, 3⟩⟩  -- 7♦7♣
def c2s2h : Combo := ⟨⟨12, 0⟩, ⟨12, 1⟩⟩ -- 2♠2♥ (not in the range)

theorem tok₁_wf : tok₁.wf = true := by decide
theorem suf₁_ok : SuffixOk suf₁ := by decide
theorem toks_ok : ∀ p ∈ toks, p.1.wf = true ∧ SuffixOk p.2 := by decide
theorem txt_is_list : stripSpaces txt = joinCommas (toks.map fun p => p.1.text ++ p.2) := by decide
/-- the stripped text: `KK+:0.5,AKs,AsKs:0,7d7c:0.5` -/
example : stripSpaces txt
    = [75, 75, 43, 58, 48, 46, 53, 44, 65, 75, 115, 44, 65, 115, 75, 115, 58, 48, 44, 55, 100, 55, 99, 58, 48, 46, 53] := by
  decide
/-- `SuffixOk` is a real restriction: `:2` and `:.5` are not weight suffixes -/
example : ¬ SuffixOk [58, 50] ∧ ¬ SuffixOk [58, 46, 53] := by decide

theorem C05_token_at_witness :
    ∃ tok es, parseToken wtText (tok₁.text ++ suf₁) = .ok tok ∧ tok.expand = .ok es
      ∧ (C05.codesOf es).Perm tok₁.denote ∧ (C05.codesOf es).Nodup ∧ ∀ e ∈ es, e.2 = suffixWeight wtText suf₁ :=
  C05.C05_token wtText wtextOk.parse_empty tok₁ tok₁_wf suf₁ suf₁_ok

/-- cross-check by evaluation: the text is `AJs+:0.5`, it parses to "suited ace, kickers down to the jack" at
weight 0.5, which expands to the twelve combos the notation denotes -/
example : tok₁.text ++ suf₁ = [65, 74, 115, 43, 58, 48, 46, 53] := by decide
theorem parse_tok₁ : parseToken wtText (tok₁.text ++ suf₁) = .ok ⟨.bottomClosed (.suited 0 3), .half⟩ := by
  decide +kernel
theorem expand_tok₁ :
    (match (⟨.bottomClosed (.suited 0 3), .half⟩ : Token Wt).expand with
     | .ok es => some (C05.codesOf es, es.map (·.2))
     | _ => none)
    = some ([(0, 4), (1, 5), (2, 6), (3, 7), (0, 8), (1, 9), (2, 10), (3, 11), (0, 12), (1, 13), (2, 14), (3, 15)],
            List.replicate 12 Wt.half) := by decide +kernel
example : tok₁.denote
    = [(0, 4), (1, 5), (2, 6), (3, 7), (0, 8), (1, 9), (2, 10), (3, 11), (0, 12), (1, 13), (2, 14), (3, 15)] := by decide
example : suffixWeight wtText suf₁ = Wt.half ∧ suffixWeight wtText [] = Wt.one := by decide

/-- without a suffix the weight is 1 (this is where `wt.parseW [] = none` is used) -/
theorem C05_token_no_suffix :
    ∃ tok es, parseToken wtText (tok₁.text ++ []) = .ok tok ∧ tok.expand = .ok es
      ∧ (C05.codesOf es).Perm tok₁.denote ∧ (C05.codesOf es).Nodup ∧ ∀ e ∈ es, e.2 = suffixWeight wtText [] :=
  C05.C05_token wtText wtextOk.parse_empty tok₁ tok₁_wf [] (Or.inl rfl)
example : parseToken wtText (tok₁.text ++ []) = .ok ⟨.bottomClosed (.suited 0 3), .one⟩ := by decide +kernel

theorem C05_list_at_witness :
    ∃ r, parseRange wtText txt = .ok r
      ∧ ∀ c : Combo, ComboOk c → r.lookup c = C05.lastWeight wtText toks (comboCodes c) :=
  C05.C05_list wtText wtextOk.parse_empty toks toks_ok txt txt_is_list

/-- closed consequence at five combos: the overlap A♠K♠ takes the LATER weight 0, the other suited ace-kings
keep 1, the kings and 7♦7♣ have 0.5, the deuces are absent -/
theorem C05_list_closed :
    ∃ r, parseRange wtText txt = .ok r
      ∧ r.lookup asks = some .zero ∧ r.lookup ahkh = some .one ∧ r.lookup kskh = some .half
      ∧ r.lookup c7d7c = some .half ∧ r.lookup c2s2h = none := by
  obtain ⟨r, hr, h⟩ := C05_list_at_witness
  refine ⟨r, hr, ?_, ?_, ?_, ?_, ?_⟩ <;> (rw [h _ (by decide)]; decide)

/-- cross-check: the model's parser run by the kernel on the text, then asked the same five questions
(no use of `C05_list`) -/
theorem parse_eval :
    (match parseRange wtText txt with
     | .ok r => some (r.length, [r.lookup asks, r.lookup ahkh, r.lookup kskh, r.lookup c7d7c, r.lookup c2s2h])
     | _ => none)
    = some (18, [some .zero, some .one, some .half, some .half, none]) := by decide +kernel

/-- the empty list of tokens: the empty range -/
theorem C05_list_at_nil : ∃ r, parseRange wtText [32, 32] = .ok r
    ∧ ∀ c : Combo, ComboOk c → r.lookup c = C05.lastWeight wtText [] (comboCodes c) :=
  C05.C05_list wtText wtextOk.parse_empty [] (by simp) [32, 32] (by decide)

theorem C05_empty_at_witness : parseRange wtText [32, 32, 32] = .ok [] :=
  C05.C05_empty wtText [32, 32, 32] (by decide)
example : parseRange wtText [32, 32, 32] = .ok [] := by decide +kernel
example : parseRange wtText [] = .ok [] := C05.C05_empty wtText [] (by simp)

end EspadaVerif.C05.Witness
