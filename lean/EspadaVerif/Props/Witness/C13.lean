/-
Non-vacuity witnesses for `Props/C13.lean`.

No theorem of `Props/C13.lean` is named `C13_…`; instantiated are its statements about the crate that carry a hypothesis
(not its auxiliary lemmas).  Data: K♦ = ⟨1, 2⟩ (code 6), 7♣ = ⟨7, 3⟩ (code 31), the text "7c" = [55, 99],
the rank run Jack..Eight (3..6), the suit run Heart..Club (1..3).
-/
import EspadaVerif.Props.C13


namespace EspadaVerif.C13.Witness

/-- K♦ -/
def kd : Card := ⟨1, 2⟩
/-- 7♣ -/
def c7 : Card := ⟨7, 3⟩
/-- the text "7c" -/
def txt7c : Bytes := [55, 99]

theorem kd_valid : kd.valid = true := by decide
theorem c7_valid : c7.valid = true := by decide
theorem byte55_lt : (55 : Nat) < 128 := by decide
theorem byte99_lt : (99 : Nat) < 128 := by decide

theorem mem_allCards_at_witness : c7 ∈ allCards := C13.mem_allCards c7 c7_valid
theorem valid_of_mem_allCards_at_witness : kd.valid = true := C13.valid_of_mem_allCards kd (by decide)

/-- Seven (code 7) : next is Six (8), previous is Eight (6) -/
theorem rank_next_prev_at_witness :
    rankNext 7 = (if 7 + 1 < 13 then some (7 + 1) else none)
    ∧ rankPrev 7 = (if 0 < 7 then some (7 - 1) else none) := C13.rank_next_prev 7 (by decide)
example : rankNext 7 = some 8 ∧ rankPrev 7 = some 6 := by decide
/-- the two ends: Deuce has no next, Ace has no previous -/
theorem rank_next_prev_at_ends : rankNext 12 = none ∧ rankPrev 0 = none :=
  ⟨by simpa using (C13.rank_next_prev 12 (by decide)).1, by simpa using (C13.rank_next_prev 0 (by decide)).2⟩
example : rankNext 12 = none ∧ rankPrev 0 = none := by decide

theorem rank_text_at_witness : rankOfChar (rankChar 7) = some 7 ∧ rankChar 7 < 128 :=
  C13.rank_text 7 (by decide)
example : rankChar 7 = 55 := by decide
theorem suit_text_at_witness : suitOfChar (suitChar 3) = some 3 ∧ suitChar 3 < 128 :=
  C13.suit_text 3 (by decide)
example : suitChar 3 = 99 := by decide

theorem rank_char_only_at_witness : 7 < 13 ∧ rankChar 7 = 55 :=
  (C13.rankOfChar_some (by decide)).2
theorem suit_char_only_at_witness : 3 < 4 ∧ suitChar 3 = 99 :=
  (C13.suitOfChar_some (by decide)).2
/-- the hypothesis `rankOfChar b = some r` is not met by other bytes, e.g. 'x' and 'a' (lower case); nor is 'S' a suit letter -/
example : rankOfChar 120 = none ∧ rankOfChar 97 = none ∧ suitOfChar 83 = none := by decide

theorem card_bits_roundtrip_at_witness :
    cardOfU64 (u64OfCard kd) = .ok kd ∧ ∃ k, k < 52 ∧ u64OfCard kd = 2 ^ k :=
  C13.card_bits_roundtrip kd kd_valid
example : u64OfCard kd = 2 ^ 6 ∧ u64OfCard c7 = 2 ^ 31 ∧ cardOfU64 (2 ^ 31) = .ok c7 := by decide

/-- contrapositive use: different cards, different bits -/
theorem card_bits_inj_at_witness : u64OfCard kd ≠ u64OfCard c7 :=
  fun h => absurd (C13.card_bits_inj kd c7 kd_valid c7_valid h) (by decide)
example : u64OfCard kd = 64 ∧ u64OfCard c7 = 2147483648 := by decide
/-- direct use with a satisfied equation -/
example : (⟨1, 2⟩ : Card) = kd :=
  C13.card_bits_inj ⟨1, 2⟩ kd (by decide) kd_valid rfl

theorem bits_card_roundtrip_at_witness :
    ∃ c, cardOfU64 (2 ^ 31) = .ok c ∧ c.valid = true ∧ u64OfCard c = 2 ^ 31 :=
  C13.bits_card_roundtrip 31 (by decide)
example : cardOfU64 (2 ^ 31) = .ok c7 := by decide
/-- the bound `k < 52` matters: bit 52 is no card -/
example : cardOfU64 (2 ^ 52) = .panic := by decide

theorem card_text_roundtrip_at_witness :
    parseCard (showCard c7) = .ok c7 ∧ (showCard c7).length = 2 ∧ isAscii (showCard c7) = true :=
  C13.card_text_roundtrip c7 c7_valid
example : showCard c7 = txt7c ∧ showCard kd = [75, 100] ∧ parseCard txt7c = .ok c7 := by decide

theorem parseCard_two_at_witness :
    parseCard [55, 99] = (match rankOfChar 55, suitOfChar 99 with
      | some r, some s => .ok ⟨r, s⟩
      | _, _ => .err) := C13.parseCard_two 55 99 byte55_lt byte99_lt
example : parseCard [55, 99] = .ok c7 := by decide
/-- a rejected two-character ASCII text ("c7": suit first) -/
theorem parseCard_two_at_reject : parseCard [99, 55] = .err := by
  rw [C13.parseCard_two 99 55 byte99_lt byte55_lt]; decide
example : parseCard [99, 55] = .err := by decide

theorem two_char_ascii_at_witness :
    parseCard [55, 99] ≠ .panic ∧
    ∀ c, parseCard [55, 99] = .ok c → c.valid = true ∧ showCard c = [55, 99] :=
  C13.two_char_ascii 55 99 byte55_lt byte99_lt
/-- the inner implication is used, not only stated -/
theorem two_char_ascii_used : c7.valid = true ∧ showCard c7 = [55, 99] :=
  two_char_ascii_at_witness.2 c7 (by decide)

/-- Jack..Eight: exclusive gives J,T,9 ; inclusive J,T,9,8 -/
theorem rank_range_run_at_witness :
    rankRange 3 6 false = .ok (List.range' 3 (6 - 3))
    ∧ rankRange 3 6 true = .ok (List.range' 3 (6 + 1 - 3)) :=
  C13.rank_range_run 3 6 (by decide) (by decide) (by decide)
example : rankRange 3 6 false = .ok [3, 4, 5] ∧ rankRange 3 6 true = .ok [3, 4, 5, 6] := by decide
/-- the hypothesis `a ≤ b` matters: a reversed exclusive range panics -/
example : rankRange 6 3 false = .panic := by decide

theorem suit_range_run_at_witness :
    suitRange 1 3 false = .ok (List.range' 1 (3 - 1))
    ∧ suitRange 1 3 true = .ok (List.range' 1 (3 + 1 - 1)) :=
  C13.suit_range_run 1 3 (by decide) (by decide) (by decide)
example : suitRange 1 3 false = .ok [1, 2] ∧ suitRange 1 3 true = .ok [1, 2, 3] := by decide

example : (allCards.map u64OfCard).length = 52 := by decide
example : cardOfU64 0 = .panic := C13.zero_word_panics
example : parseCard [55] = .err := C13.short_text_rejected.2 55

end EspadaVerif.C13.Witness
