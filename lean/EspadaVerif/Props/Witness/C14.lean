/-
Non-vacuity witnesses for `Props/C14.lean` (no theorem there is named `C14_…`; instantiated are `pair_canonical`,
`equal_pairs_equal_hash`, `parsePair_four`, `pair_text` and the two order facts of `Lemmas/CardFacts.lean`).  Data: K♦ = ⟨1, 2⟩ and 7♣ = ⟨7, 3⟩, given in the "wrong" order (7♣ first), so
that `mkPair` really swaps; the text "7cKd" = [55, 99, 75, 100].
-/
import EspadaVerif.Props.C14


namespace EspadaVerif.C14.Witness

/-- K♦ -/
def kd : Card := ⟨1, 2⟩
/-- 7♣ -/
def c7 : Card := ⟨7, 3⟩
/-- "7cKd" -/
def txt : Bytes := [55, 99, 75, 100]

theorem c7_ne_kd : c7 ≠ kd := by decide

theorem lt_asymm_at_witness : Card.lt c7 kd = false := Card.lt_asymm (a := kd) (b := c7) (by decide)
theorem lt_total_at_witness : Card.lt c7 kd = true ∨ Card.lt kd c7 = true := Card.lt_total c7_ne_kd

theorem pair_canonical_at_witness :
    mkPair c7 kd = mkPair kd c7 ∧ Card.lt (mkPair c7 kd).fst (mkPair c7 kd).snd = true
    ∧ ((mkPair c7 kd).fst = c7 ∧ (mkPair c7 kd).snd = kd ∨ (mkPair c7 kd).fst = kd ∧ (mkPair c7 kd).snd = c7) :=
  C14.pair_canonical c7 kd c7_ne_kd
/-- cross-check by evaluation: the pair is stored king first, i.e. the constructor swapped -/
example : mkPair c7 kd = ⟨kd, c7⟩ ∧ mkPair kd c7 = ⟨kd, c7⟩ := by decide
/-- the hypothesis `a ≠ b` matters for the strict order of the fields -/
example : Card.lt (mkPair kd kd).fst (mkPair kd kd).snd = false := by decide

theorem equal_pairs_equal_hash_at_witness :
    (fun a b : Card => 31 * a.code + b.code) (mkPair c7 kd).fst (mkPair c7 kd).snd
      = (fun a b : Card => 31 * a.code + b.code) (mkPair kd c7).fst (mkPair kd c7).snd :=
  C14.equal_pairs_equal_hash (fun a b => 31 * a.code + b.code) c7 kd c7_ne_kd
/-- the hash above is not symmetric in its arguments, so the statement is not trivial for it -/
example : (31 * c7.code + kd.code) ≠ (31 * kd.code + c7.code) := by decide

theorem parsePair_four_at_witness :
    parsePair [55, 99, 75, 100] = pairOfRes (parseCard [55, 99]) (parseCard [75, 100]) :=
  C14.parsePair_four 55 99 75 100 (by decide) (by decide) (by decide) (by decide)

theorem pair_text_at_witness :
    parsePair (showPair (mkPair c7 kd)) = .ok (mkPair c7 kd)
    ∧ parsePair (showCard c7 ++ showCard kd) = .ok (mkPair c7 kd)
    ∧ parsePair (showCard kd ++ showCard c7) = .ok (mkPair c7 kd) :=
  C14.pair_text c7 kd (by decide) (by decide) c7_ne_kd
/-- cross-check by evaluation: "7cKd" and "Kd7c" both parse to (K♦, 7♣), which prints as "Kd7c" -/
example : showCard c7 ++ showCard kd = txt ∧ parsePair txt = .ok ⟨kd, c7⟩
    ∧ parsePair [75, 100, 55, 99] = .ok ⟨kd, c7⟩ ∧ showPair (mkPair c7 kd) = [75, 100, 55, 99] := by decide

end EspadaVerif.C14.Witness
