/-
Non-vacuity witness for `Props/C06FromIter.lean` (`C06_collect`: the public constructor `FromIterator<(CardPair, f32)>`).

The concrete weight type `Wt` = {0, 0.5, 1, 2} of `Witness/Common.lean` has one value, `2`, whose text the weight grammar
of the parser does not accept — the rôle −0.0 plays for `f32` (it prints as `-0`).  The normalisation `norm2` stores it as
`0`, as the crate's constructor stores −0.0 as 0.0 (`hand_range.rs` ~407), and is the identity elsewhere; `inUnit` is the
whole type.  The entry list holds the offending weight twice (once shadowed by a later insert of the same combo, once live), a
complete suited rank pair and a lone pocket combo.
-/
import EspadaVerif.Props.C06FromIter
import EspadaVerif.Props.Witness.C06


namespace EspadaVerif.C06.Witness
open TextDefs EspadaVerif.Witness

/-- the analogue of `if p == 0.0 { 0.0 } else { p }`: the one weight outside the text domain is stored as 0 -/
def norm2 : Wt → Wt
  | .two => .zero
  | w => w

theorem norm2_dom : ∀ w, (fun _ : Wt => True) w → wtDom (norm2 w) := by
  intro w _; cases w <;> decide

/-- `AsKs:2` (shadowed by the later `AsKs:0.5`), `QsQh:2` (live), the four suited ace-kings at 0.5 (A♠K♠ last), `7d7c` -/
def esIn : List (Combo × Wt) :=
  [(asks, .two), (qsqh, .two),
   (⟨⟨0, 3⟩, ⟨1, 3⟩⟩, .half), (⟨⟨0, 2⟩, ⟨1, 2⟩⟩, .half), (⟨⟨0, 1⟩, ⟨1, 1⟩⟩, .half), (asks, .half),
   (c7d7c, .one)]

theorem esIn_ok : ∀ e ∈ esIn, ComboOk e.1 ∧ (fun _ : Wt => True) e.2 := by decide

theorem C06_collect_at_witness :
    ∃ txt r', showRange wtText (collectWith norm2 esIn) = .ok txt ∧ parseRange wtText txt = .ok r' ∧
      ∀ c, r'.lookup c = (collectWith norm2 esIn).lookup c :=
  C06_collect wtText wtDom (fun _ => True) norm2 wtextOk norm2_dom esIn esIn_ok

/-- the tokens of the collected range when the live weight of Q♠Q♥ is stored as `w` -/
def toksQ (w : Wt) : List (Token Wt) :=
  [⟨.singleRank (.suited 0 1), .half⟩, ⟨.singleCard qsqh, w⟩, ⟨.singleCard qsqh, w⟩, ⟨.singleCard c7d7c, .one⟩,
   ⟨.singleCard c7d7c, .one⟩]

/-- the formatter run on the collected range, with and without the normalisation (one declaration: the kernel shares
what the two runs have in common) -/
theorem tokens_collected : showRangeTokens wtText (collectWith norm2 esIn) = .ok (toksQ .zero)
    ∧ showRangeTokens wtText (collectWith id esIn) = .ok (toksQ .two) := by decide +kernel

/-- the conclusion evaluated independently: the collected range prints as `AKs:0.5,QsQh:0,QsQh:0,7d7c,7d7c` (the crate
writes a leftover pocket combo once per ordered suit pair — its own tests expect that, DESIGN §7.5) and that text is read
back with the same answers; the weight `2` given for Q♠Q♥ was stored as 0, the one for A♠K♠ was overwritten -/
example : textOf (collectWith norm2 esIn)
    = [65, 75, 115, 58, 48, 46, 53, 44, 81, 115, 81, 104, 58, 48, 44, 81, 115, 81, 104, 58, 48, 44, 55, 100, 55, 99, 44,
       55, 100, 55, 99] := by
  rw [textOf_eq (FormatFacts.showRange_of_tokens tokens_collected.1)]
  decide
example : [asks, qsqh, qdqc, c7d7c].map (reparsed (collectWith norm2 esIn)).lookup
      = [some .half, some .zero, none, some .one]
    ∧ [asks, qsqh, qdqc, c7d7c].map (collectWith norm2 esIn).lookup
      = [some .half, some .zero, none, some .one] := by
  rw [reparsed, textOf_eq (FormatFacts.showRange_of_tokens tokens_collected.1)]
  decide +kernel

/-- the normalisation matters: collected with the identity, the live weight `2` prints as `QsQh:2`, a text outside the
weight grammar which the range parser drops — the re-read range has lost Q♠Q♥; the theorem's `hnorm` excludes this, and the
identity does not satisfy it (next example) -/
example : (reparsed (collectWith id esIn)).lookup qsqh = none ∧ (collectWith id esIn).lookup qsqh = some .two := by
  rw [reparsed, textOf_eq (FormatFacts.showRange_of_tokens tokens_collected.2)]
  decide +kernel
example : ¬ (∀ w, (fun _ : Wt => True) w → wtDom (id w)) := fun h => h .two trivial rfl

end EspadaVerif.C06.Witness
