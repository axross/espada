/-
Non-vacuity witnesses for `Props/C01.lean` and `Props/C01Compare.lean` (both in namespace `EspadaVerif.C01`).

Data (board A♠ K♦ 7♣ 9♠ 2♠ throughout):
* `flushHand` : hole Q♠ J♠ in evaluator order (hole, flop, turn, river) — spade flush A Q J 9 2, class 501;
  `flushSorted` the same seven cards in rank order;
* `tripsSorted` : hole K♥ K♣ — three kings, class 1679;
* `tieA`, `tieB` : holes Q♥ J♦ and Q♦ J♣ — the same high-card hand A K Q J 9, class 6186 (a tie).
`Spec.best` / `Spec.bestStrength` are cross-checked through the sort-free forms at the end of `Lemmas/ListAux.lean`
(they agree on rank-sorted cards; the kernel cannot unfold `List.mergeSort`).
-/
import EspadaVerif.Props.C01Compare


namespace EspadaVerif.C01.Witness
open Spec Lemmas EspadaVerif.Witness

def flushHand : List Card := [⟨2, 0⟩, ⟨3, 0⟩, ⟨0, 0⟩, ⟨1, 2⟩, ⟨7, 3⟩, ⟨5, 0⟩, ⟨12, 0⟩]
def flushSorted : List Card := [⟨0, 0⟩, ⟨1, 2⟩, ⟨2, 0⟩, ⟨3, 0⟩, ⟨5, 0⟩, ⟨7, 3⟩, ⟨12, 0⟩]
def tripsSorted : List Card := [⟨0, 0⟩, ⟨1, 1⟩, ⟨1, 2⟩, ⟨1, 3⟩, ⟨5, 0⟩, ⟨7, 3⟩, ⟨12, 0⟩]
def tieA : List Card := [⟨0, 0⟩, ⟨1, 2⟩, ⟨2, 1⟩, ⟨3, 2⟩, ⟨5, 0⟩, ⟨7, 3⟩, ⟨12, 0⟩]
def tieB : List Card := [⟨0, 0⟩, ⟨1, 2⟩, ⟨2, 2⟩, ⟨3, 3⟩, ⟨5, 0⟩, ⟨7, 3⟩, ⟨12, 0⟩]
/-- the five spades of `flushSorted`, as the specification sees them -/
def flushFive : List (Nat × Nat) := [(0, 0), (2, 0), (3, 0), (5, 0), (12, 0)]

theorem flush_perm : flushHand.Perm flushSorted := by decide
/-- the evaluator order is really not the sorted order -/
example : flushHand ≠ flushSorted := by decide

theorem seven_flushHand : Seven flushHand := by decide
theorem seven_flushSorted : Seven flushSorted := by decide
theorem seven_tripsSorted : Seven tripsSorted := by decide

theorem eval_flushHand : eval7 flushHand = .ok 501 := by decide +kernel
theorem eval_flushSorted : eval7 flushSorted = .ok 501 := by decide +kernel
theorem eval_tripsSorted : eval7 tripsSorted = .ok 1679 := by decide +kernel

/-! ### independent evaluation of the specification side -/

theorem best_flushSorted : best (flushSorted.map toSpec) = 501 := by
  rw [best_sorted _ (by decide)]; decide +kernel
theorem best_tripsSorted : best (tripsSorted.map toSpec) = 1679 := by
  rw [best_sorted _ (by decide)]; decide +kernel
theorem bestStrength_flushSorted : bestStrength (flushSorted.map toSpec) = 3220785 := by
  rw [bestStrength_sorted _ (by decide)]; decide +kernel
theorem bestStrength_tripsSorted : bestStrength (tripsSorted.map toSpec) = 2111704 := by
  rw [bestStrength_sorted _ (by decide)]; decide +kernel
theorem bestStrength_tieA : bestStrength (tieA.map toSpec) = 534640 := by
  rw [bestStrength_sorted _ (by decide)]; decide +kernel
theorem bestStrength_tieB : bestStrength (tieB.map toSpec) = 534640 := by
  rw [bestStrength_sorted _ (by decide)]; decide +kernel

theorem C01_eval_sorted_at_witness : eval7 flushSorted = .ok (best (flushSorted.map toSpec)) :=
  C01_eval_sorted flushSorted seven_flushSorted.len seven_flushSorted.nodup seven_flushSorted.valid (by decide)

theorem C01_eval_at_witness : eval7 flushHand = .ok (best (flushHand.map toSpec)) :=
  C01_eval flushHand seven_flushHand.len seven_flushHand.nodup seven_flushHand.valid

/-- closed consequence: the specification's best class of the seven cards in evaluator order is 501 -/
theorem C01_eval_closed : best (flushHand.map toSpec) = 501 :=
  (Res.ok.inj (eval_flushHand.symm.trans C01_eval_at_witness)).symm

/-- cross-check: table lookup (`eval7`) and specification (`best`, evaluated without any table) agree, both
computed directly -/
example : eval7 flushSorted = .ok 501 ∧ best (flushSorted.map toSpec) = 501 :=
  ⟨eval_flushSorted, best_flushSorted⟩
/-- and the two orders of the cards have the same best class, as `best_perm` says -/
example : best (flushHand.map toSpec) = best (flushSorted.map toSpec) := by
  rw [C01_eval_closed, best_flushSorted]

theorem C01_order_at_witness : eval7 flushHand = eval7 flushSorted :=
  C01_order flushHand flushSorted flush_perm seven_flushHand.len seven_flushHand.nodup seven_flushHand.valid
example : eval7 flushHand = eval7 flushSorted := by rw [eval_flushHand, eval_flushSorted]

/-- the `Nodup` hypothesis is a real restriction: seven "cards" with A♠ twice are outside the theorem -/
example : ¬ ([⟨0, 0⟩, ⟨0, 0⟩, ⟨0, 1⟩, ⟨0, 2⟩, ⟨0, 3⟩, ⟨1, 0⟩, ⟨2, 0⟩] : List Card).Nodup := by decide

theorem C01_index_range_at_witness : 1 ≤ 501 ∧ 501 ≤ 7462 :=
  C01_index_range flushHand seven_flushHand 501 eval_flushHand

theorem C01_best_is_strongest_at_witness :
    ∃ S ∈ choose 5 (flushSorted.map toSpec), class5 S = 501 ∧ strength5 S = bestStrength (flushSorted.map toSpec)
      ∧ catOfClass 501 = categoryOfStrength (strength5 S) :=
  C01_best_is_strongest flushSorted seven_flushSorted 501 eval_flushSorted

/-- cross-check: the sub-hand is the five spades; each conjunct evaluated directly -/
theorem flushFive_is_it :
    flushFive ∈ choose 5 (flushSorted.map toSpec) ∧ class5 flushFive = 501
      ∧ strength5 flushFive = bestStrength (flushSorted.map toSpec)
      ∧ catOfClass 501 = categoryOfStrength (strength5 flushFive) := by
  have hs : (flushFive.map (·.1)).Pairwise (· ≤ ·) := by decide
  have h1 : class5 flushFive = 501 := by
    rw [class5_of_sorted flushFive hs]; decide
  have h2 : strength5 flushFive = 3220785 := by
    rw [strength5_of_sorted flushFive hs]; decide
  refine ⟨by decide, h1, ?_, ?_⟩
  · rw [h2, bestStrength_flushSorted]
  · rw [h2]; decide

/-- flush against trips: different indexes -/
theorem C01_compare_at_witness :
    (501 < 1679 ↔ bestStrength (tripsSorted.map toSpec) < bestStrength (flushSorted.map toSpec))
    ∧ (501 = 1679 ↔ bestStrength (flushSorted.map toSpec) = bestStrength (tripsSorted.map toSpec)) :=
  C01_compare flushSorted tripsSorted seven_flushSorted seven_tripsSorted 501 1679 eval_flushSorted eval_tripsSorted

/-- closed consequence: the flush is strictly stronger under the rule book, and it is not a tie -/
theorem C01_compare_closed :
    bestStrength (tripsSorted.map toSpec) < bestStrength (flushSorted.map toSpec)
    ∧ bestStrength (flushSorted.map toSpec) ≠ bestStrength (tripsSorted.map toSpec) :=
  ⟨C01_compare_at_witness.1.mp (by decide), fun h => absurd (C01_compare_at_witness.2.mpr h) (by decide)⟩

/-- cross-check by evaluating both strengths -/
example : bestStrength (tripsSorted.map toSpec) < bestStrength (flushSorted.map toSpec) := by
  rw [bestStrength_tripsSorted, bestStrength_flushSorted]; decide

/-- in evaluator order too (no evaluation of the specification possible there; only the theorem) -/
theorem C01_compare_at_unsorted :
    (501 < 1679 ↔ bestStrength (tripsSorted.map toSpec) < bestStrength (flushHand.map toSpec))
    ∧ (501 = 1679 ↔ bestStrength (flushHand.map toSpec) = bestStrength (tripsSorted.map toSpec)) :=
  C01_compare flushHand tripsSorted seven_flushHand seven_tripsSorted 501 1679 eval_flushHand eval_tripsSorted

/-- a tie: different hole cards, equal index, equal strength -/
theorem C01_compare_at_tie :
    (6186 < 6186 ↔ bestStrength (tieB.map toSpec) < bestStrength (tieA.map toSpec))
    ∧ (6186 = 6186 ↔ bestStrength (tieA.map toSpec) = bestStrength (tieB.map toSpec)) :=
  C01_compare tieA tieB (by decide) (by decide) 6186 6186 (by decide +kernel) (by decide +kernel)
theorem C01_compare_tie_closed : bestStrength (tieA.map toSpec) = bestStrength (tieB.map toSpec) :=
  C01_compare_at_tie.2.mp rfl
example : tieA ≠ tieB ∧ bestStrength (tieA.map toSpec) = 534640 ∧ bestStrength (tieB.map toSpec) = 534640 :=
  ⟨by decide, bestStrength_tieA, bestStrength_tieB⟩

end EspadaVerif.C01.Witness
