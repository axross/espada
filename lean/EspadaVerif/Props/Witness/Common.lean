/-
Shared material of the non-vacuity witnesses (`Props/Witness/Cxx.lean`): a concrete weight type `Wt` = {0, 0.5, 1, 2} with
text conversion `wtText`, domain `wtDom` = {0, 0.5, 1} and product `wtOps`, for which the bundle `TextDefs.WTextOk` — which the
text-side properties assume about `f32` — is proved (`wtextOk`).  The value 2 is a real value of the type OUTSIDE the domain,
so that "parses into the domain" and "the domain is closed under the product" are not trivially true.  Also here: `natOps`,
decidable equality for the records that runs return, and `Res.of_exists_ok` (the value a theorem asserts to exist is the one
found by evaluation).
(The sort-free forms of `Spec.best` / `Spec.bestStrength` that the kernel can evaluate, `Witness.best_sorted` and
`Witness.bestStrength_sorted`, stand at the end of `Lemmas/ListAux.lean`.)
-/
import EspadaVerif.Model.Iter
import EspadaVerif.Spec.Deals
import EspadaVerif.Lemmas.TextDefs

namespace EspadaVerif.Witness

/-- four weights: 0, 0.5, 1 (the domain) and 2 (outside the domain) -/
inductive Wt where
  | zero | half | one | two
  deriving DecidableEq, Repr, Inhabited

namespace Wt

/-- `Display`: "0", "0.5", "1", "2" -/
def showW : Wt → Bytes
  | zero => [48]
  | half => [48, 46, 53]
  | one => [49]
  | two => [50]

/-- `FromStr`: the four printed forms, and a few more spellings of the same numbers ("0.0", "0.50",
"1.0", "1.00"); every other text — in particular the empty one — is not a number -/
def parseW : Bytes → Option Wt
  | [48] => some zero
  | [48, 46, 48] => some zero
  | [48, 46, 53] => some half
  | [48, 46, 53, 48] => some half
  | [49] => some one
  | [49, 46, 48] => some one
  | [49, 46, 48, 48] => some one
  | [50] => some two
  | _ => none

/-- order 0 < 0.5 < 2 < 1 used only to define an associative product with neutral element 1 -/
def key : Wt → Nat
  | zero => 0
  | half => 1
  | two => 2
  | one => 3

/-- a product: the smaller key wins (so 1 is neutral, 0 absorbing, and {0, 0.5, 1} is closed) -/
def mul (a b : Wt) : Wt := if a.key ≤ b.key then a else b

theorem mul_assoc (a b c : Wt) : mul (mul a b) c = mul a (mul b c) := by
  cases a <;> cases b <;> cases c <;> rfl
theorem mul_comm (a b : Wt) : mul a b = mul b a := by
  cases a <;> cases b <;> rfl
theorem one_mul (a : Wt) : mul one a = a := by cases a <;> rfl
theorem mul_one (a : Wt) : mul a one = a := by cases a <;> rfl

end Wt

def wtText : WText Wt :=
  { one := .one, eq := fun a b => decide (a = b), showW := Wt.showW, parseW := Wt.parseW }

def wtDom (w : Wt) : Prop := w ≠ .two

instance : DecidablePred wtDom := fun w => inferInstanceAs (Decidable (w ≠ .two))

def wtOps : WOps Wt := { one := .one, mul := Wt.mul }

/-- the product is one of its factors -/
theorem wtDom_mul (a b : Wt) (ha : wtDom a) (hb : wtDom b) : wtDom (wtOps.mul a b) := by
  show wtDom (if a.key ≤ b.key then a else b)
  split <;> assumption
/-- the closure statement is not trivial: outside the domain the product can stay outside -/
theorem wtDom_not_all : ¬ wtDom (wtOps.mul .two .two) := by decide

/-- **the `f32` assumption bundle is satisfiable** (all six fields), on a domain that is neither everything
nor just {1} -/
theorem wtextOk : TextDefs.WTextOk wtText wtDom where
  eq_iff := by
    intro a b _ _
    simp [wtText]
  one_dom := by decide
  show_grammar := by
    intro w hd hne
    cases w
    · decide
    · decide
    · exact absurd rfl hne
    · exact absurd rfl hd
  roundtrip := by
    intro w _
    cases w <;> rfl
  parse_dom := by
    -- only the text `2` parses to the weight 2, and it is not in the weight grammar
    intro t w ht hp hw
    subst hw
    have e : t = [50] := by
      simp only [wtText] at hp
      unfold Wt.parseW at hp
      split at hp <;> first | rfl | cases hp
    exact absurd (e ▸ ht) (by decide)
  parse_empty := rfl

theorem wtextOk_inhabited :
    ∃ (W : Type) (wt : WText W) (inDom : W → Prop), TextDefs.WTextOk wt inDom ∧ ∃ w, inDom w ∧ w ≠ wt.one :=
  ⟨Wt, wtText, wtDom, wtextOk, .half, by decide, by decide⟩

def natOps : WOps Nat := { one := 1, mul := (· * ·) }

/- decidable equality for the records that concrete runs return, so that they can be compared by `decide`
(instances only; the structures are the model's) -/
deriving instance DecidableEq for Showdown
deriving instance DecidableEq for IterState
deriving instance DecidableEq for Spec.Deal
deriving instance DecidableEq for Token

/-- the value a theorem asserts to exist is the one found by evaluation -/
theorem _root_.EspadaVerif.Res.of_exists_ok {α : Type} {x : Res α} {P : α → Prop} (h : ∃ a, x = .ok a ∧ P a) {a : α}
    (e : x = .ok a) : P a := by
  obtain ⟨a', e', h⟩ := h
  cases e'.symm.trans e
  exact h

theorem _root_.EspadaVerif.Res.of_exists_ok₂ {α β : Type} {x : Res α} {y : Res β} {P : α → β → Prop}
    (h : ∃ a b, x = .ok a ∧ y = .ok b ∧ P a b) {a : α} {b : β} (ex : x = .ok a) (ey : y = .ok b) : P a b := by
  obtain ⟨a', b', ex', ey', h⟩ := h
  cases ex'.symm.trans ex
  cases ey'.symm.trans ey
  exact h

end EspadaVerif.Witness
