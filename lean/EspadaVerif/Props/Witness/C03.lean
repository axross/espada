/-
Non-vacuity witnesses for `Props/C03.lean`.

Data: board A♠ K♦ 7♣ 9♠ 2♠; probability 6 in `Nat`;
* `ps`  : K♥K♣ (three kings, 1679), Q♠J♠ (spade flush, 501), Q♥J♦ (ace high, 6186) — one winner, not the
  first player;
* `ps₂` : Q♥J♦ (6186), 8♥3♦ (6294), Q♦J♣ (6186) — a split pot between players 0 and 2;
* `ps₃` : Q♠J♠ and A♠Q♥ — the second player holds the A♠ that lies on the board (collision).
-/
import EspadaVerif.Props.C03
import EspadaVerif.Props.Witness.Common


namespace EspadaVerif.C03.Witness
open Spec

def board : List Card := [⟨0, 0⟩, ⟨1, 2⟩, ⟨7, 3⟩, ⟨5, 0⟩, ⟨12, 0⟩]
def ps : List Combo := [⟨⟨1, 1⟩, ⟨1, 3⟩⟩, ⟨⟨2, 0⟩, ⟨3, 0⟩⟩, ⟨⟨2, 1⟩, ⟨3, 2⟩⟩]
def ps₂ : List Combo := [⟨⟨2, 1⟩, ⟨3, 2⟩⟩, ⟨⟨6, 1⟩, ⟨11, 2⟩⟩, ⟨⟨2, 2⟩, ⟨3, 3⟩⟩]
def ps₃ : List Combo := [⟨⟨2, 0⟩, ⟨3, 0⟩⟩, ⟨⟨0, 0⟩, ⟨2, 1⟩⟩]
def prob : Nat := 6

def players : List ShowdownPlayer :=
  [⟨⟨⟨1, 1⟩, ⟨1, 3⟩⟩, 1679, false⟩, ⟨⟨⟨2, 0⟩, ⟨3, 0⟩⟩, 501, true⟩, ⟨⟨⟨2, 1⟩, ⟨3, 2⟩⟩, 6186, false⟩]
def players₂ : List ShowdownPlayer :=
  [⟨⟨⟨2, 1⟩, ⟨3, 2⟩⟩, 6186, true⟩, ⟨⟨⟨6, 1⟩, ⟨11, 2⟩⟩, 6294, false⟩, ⟨⟨⟨2, 2⟩, ⟨3, 3⟩⟩, 6186, true⟩]

def isOkNone {α : Type} : Res (Option α) → Bool
  | .ok none => true
  | _ => false

theorem isOkNone_iff {α : Type} (r : Res (Option α)) : isOkNone r = true ↔ r = .ok none := by
  cases r with
  | ok o => cases o <;> simp [isOkNone]
  | err => simp [isOkNone]
  | panic => simp [isOkNone]

theorem wf : WfTable board ps := by decide
theorem wf₂ : WfTable board ps₂ := by decide
theorem wf₃ : WfTable board ps₃ := by decide
theorem no_collision : ∀ p ∈ ps, collides board p = false := by decide
theorem no_collision₂ : ∀ p ∈ ps₂, collides board p = false := by decide
theorem collision₃ : ∃ p ∈ ps₃, collides board p = true := by decide

theorem showdown_eval : showdownNew ps board prob = .ok (some ⟨board, players, 6⟩) := by decide +kernel
theorem showdown_eval₂ : showdownNew ps₂ board prob = .ok (some ⟨board, players₂, 6⟩) := by decide +kernel
theorem showdown_eval₃ : isOkNone (showdownNew ps₃ board prob) = true := by decide +kernel

theorem C03_none_iff_at_witness :
    showdownNew ps₃ board prob = .ok none ↔ ∃ p ∈ ps₃, collides board p = true :=
  C03_none_iff board ps₃ prob wf₃

/-- closed consequence (right to left): the collision gives no showdown -/
theorem C03_none_closed : showdownNew ps₃ board prob = .ok none := C03_none_iff_at_witness.mpr collision₃
/-- the same by evaluation -/
example : showdownNew ps₃ board prob = .ok none := (isOkNone_iff _).mp showdown_eval₃

/-- closed consequence (left to right, contrapositive) on the collision-free table: a showdown is not refused -/
theorem C03_none_closed' : showdownNew ps board prob ≠ .ok none := by
  intro h
  obtain ⟨p, hp, hc⟩ := (C03_none_iff board ps prob wf).mp h
  rw [no_collision p hp] at hc
  cases hc
example : isOkNone (showdownNew ps board prob) = false := by decide +kernel

theorem C03_some_at_witness :
    ∃ sd : Showdown Nat, showdownNew ps board prob = .ok (some sd)
      ∧ sd.board = board ∧ sd.prob = prob
      ∧ sd.players.map (·.hole) = ps
      ∧ (∀ pl ∈ sd.players, eval7 (sevenCards pl.hole board) = .ok pl.hand
            ∧ pl.hand = best ((sevenCards pl.hole board).map C01.toSpec))
      ∧ sd.players.map (·.win) = winnersOf (sd.players.map (·.hand))
      ∧ (ps.length ≤ 255 → ∀ dbg, winnerLen sd dbg = .ok (sd.players.countP (·.win)))
      ∧ (ps ≠ [] → 1 ≤ sd.players.countP (·.win)) :=
  C03_some board ps prob wf no_collision

/-- closed form: the showdown that exists is the evaluated one; with all side hypotheses discharged -/
theorem C03_some_closed :
    ∃ sd : Showdown Nat, showdownNew ps board prob = .ok (some sd) ∧ sd.players = players
      ∧ players.map (·.hole) = ps
      ∧ (∀ pl ∈ players, eval7 (sevenCards pl.hole board) = .ok pl.hand
            ∧ pl.hand = best ((sevenCards pl.hole board).map C01.toSpec))
      ∧ players.map (·.win) = winnersOf [1679, 501, 6186]
      ∧ (∀ dbg, winnerLen sd dbg = .ok 1) := by
  obtain ⟨sd, h, _, _, h3, h4, h5, h6, _⟩ := C03_some_at_witness
  cases Res.ok.inj (h.symm.trans showdown_eval)
  exact ⟨_, h, rfl, h3, h4, h5, h6 (by decide)⟩

/-- cross-check of the flags by evaluating the specification: only the flush wins -/
example : winnersOf [1679, 501, 6186] = [false, true, false] ∧ players.map (·.win) = [false, true, false] := by decide
/-- cross-check of the evaluations by running the evaluator on each player's own seven cards -/
example : players.all (fun pl => eval7 (sevenCards pl.hole board) == .ok pl.hand) = true := by decide +kernel

/-- the split pot -/
theorem C03_some_at_witness₂ :
    ∃ sd : Showdown Nat, showdownNew ps₂ board prob = .ok (some sd) ∧ sd.players = players₂
      ∧ players₂.map (·.win) = winnersOf [6186, 6294, 6186]
      ∧ winnerLen sd true = .ok 2 ∧ 1 ≤ players₂.countP (·.win) := by
  obtain ⟨sd, h, _, _, _, _, h5, h6, h7⟩ := C03_some board ps₂ prob wf₂ no_collision₂
  cases Res.ok.inj (h.symm.trans showdown_eval₂)
  exact ⟨_, h, rfl, h5, h6 (by decide) true, h7 (by decide)⟩
example : winnersOf [6186, 6294, 6186] = [true, false, true] := by decide

theorem C03_winner_iff_at_witness (sd : Showdown Nat) (hsd : showdownNew ps board prob = .ok (some sd)) :
    ∀ pl ∈ sd.players, (pl.win = true ↔ ∀ pl' ∈ sd.players, pl.hand ≤ pl'.hand) :=
  C03_winner_iff board ps prob wf sd hsd

/-- closed form: its remaining hypothesis is met (by `C03_some`), and the players are the evaluated ones -/
theorem C03_winner_iff_closed :
    ∀ pl ∈ players, (pl.win = true ↔ ∀ pl' ∈ players, pl.hand ≤ pl'.hand) := by
  obtain ⟨sd, h, hp, _⟩ := C03_some_closed
  have := C03_winner_iff_at_witness sd h
  rw [hp] at this
  exact this
/-- the same by evaluation -/
example : ∀ pl ∈ players, (pl.win = true ↔ ∀ pl' ∈ players, pl.hand ≤ pl'.hand) := by decide

theorem C03_winner_iff_closed₂ :
    ∀ pl ∈ players₂, (pl.win = true ↔ ∀ pl' ∈ players₂, pl.hand ≤ pl'.hand) := by
  obtain ⟨sd, h, hp, _⟩ := C03_some_at_witness₂
  have := C03_winner_iff board ps₂ prob wf₂ sd h
  rw [hp] at this
  exact this

theorem eval_own_seven_at_witness :
    eval7 (sevenCards ⟨⟨2, 0⟩, ⟨3, 0⟩⟩ board) = .ok (best ((sevenCards ⟨⟨2, 0⟩, ⟨3, 0⟩⟩ board).map C01.toSpec)) :=
  eval_own_seven board ⟨⟨2, 0⟩, ⟨3, 0⟩⟩ (by decide) (by decide) (by decide) (by decide) (by decide)

end EspadaVerif.C03.Witness
