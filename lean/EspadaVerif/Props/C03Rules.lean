/-
C03 — the showdown's flags by the RULE BOOK (`C03_rules`, composing `C03_winner_iff` with `C01.best_le_iff`),
`winner_len` under the property's own precondition, and the card order of `ShowdownPlayer::cards()` (board first,
while the hand was evaluated hole cards first).
-/
import EspadaVerif.Props.C03
import EspadaVerif.Props.C01Compare
import EspadaVerif.Lemmas.CardFacts
import EspadaVerif.Props.Witness.C03


namespace EspadaVerif.C03
open Spec

theorem seven_of_player {W : Type} (board : List Card) (ps : List Combo) (prob : W) (h : WfTable board ps)
    (sd : Showdown W) (hsd : showdownNew ps board prob = .ok (some sd)) :
    ∀ pl ∈ sd.players, C01.Seven (sevenCards pl.hole board)
      ∧ pl.hand = best ((sevenCards pl.hole board).map C01.toSpec) := by
  obtain ⟨hno, rfl⟩ := eq_of_some board ps prob h sd hsd
  exact forall_mem_ruled.mpr fun p hp => ⟨h.seven hp (hno p hp), rfl⟩

/-- **C03 (rule book).** In a produced showdown a player is flagged a winner exactly when no player's best
five-card hand (out of that player's own seven cards) is stronger under the rule book than his. -/
theorem C03_rules {W : Type} (board : List Card) (ps : List Combo) (prob : W) (h : WfTable board ps)
    (sd : Showdown W) (hsd : showdownNew ps board prob = .ok (some sd)) :
    ∀ pl ∈ sd.players, (pl.win = true ↔ ∀ pl' ∈ sd.players,
      bestStrength ((sevenCards pl'.hole board).map C01.toSpec)
        ≤ bestStrength ((sevenCards pl.hole board).map C01.toSpec)) := by
  intro pl hpl
  have h7 := seven_of_player board ps prob h sd hsd
  rw [C03_winner_iff board ps prob h sd hsd pl hpl]
  refine forall_congr' fun pl' => forall_congr' fun hpl' => ?_
  rw [(h7 pl hpl).2, (h7 pl' hpl').2]
  exact C01.best_le_iff (h7 pl hpl).1 (h7 pl' hpl').1

/-- the same read the other way: an unflagged player is beaten, by the rule book, by some listed player -/
theorem C03_rules_loser {W : Type} (board : List Card) (ps : List Combo) (prob : W) (h : WfTable board ps)
    (sd : Showdown W) (hsd : showdownNew ps board prob = .ok (some sd)) :
    ∀ pl ∈ sd.players, (pl.win = false ↔ ∃ pl' ∈ sd.players,
      bestStrength ((sevenCards pl.hole board).map C01.toSpec)
        < bestStrength ((sevenCards pl'.hole board).map C01.toSpec)) := by
  intro pl hpl
  rw [← Bool.not_eq_true, C03_rules board ps prob h sd hsd pl hpl]
  simp only [Classical.not_forall, Nat.not_le, exists_prop]

/-- **at most 23 players** can sit at a table whose 5 + 2n cards are valid and pairwise different -/
theorem players_le_23 (board : List Card) (ps : List Combo) (h : WfTable board ps)
    (hnd : (tableCards board ps).Nodup) : ps.length ≤ 23 := by
  have h1 := nodup_valid_length_le _ hnd (tableCards_valid board ps h)
  rw [tableCards_length, h.board_len] at h1
  omega

/-- **C03 (`winner_len`).** Under the property's precondition — five board cards and two hole cards per player,
all valid and pairwise different, at least one player — `winner_len()` returns, in a debug and in a release
build alike, the number of flagged players, and that number is at least one.  (The bound `n ≤ 255` that the
`u8` counter needs is derived: at most 23 players fit into 52 cards.) -/
theorem C03_winner_len {W : Type} (board : List Card) (ps : List Combo) (prob : W) (h : WfTable board ps)
    (hnd : (tableCards board ps).Nodup) (hne : ps ≠ [])
    (sd : Showdown W) (hsd : showdownNew ps board prob = .ok (some sd)) (dbg : Bool) :
    ∃ k, winnerLen sd dbg = .ok k ∧ k = (sd.players.filter (·.win)).length ∧ 1 ≤ k := by
  obtain ⟨_, rfl⟩ := eq_of_some board ps prob h sd hsd
  have h23 := players_le_23 board ps h hnd
  exact ⟨_, winnerLen_ruled board _ ps prob (by omega) dbg, List.countP_eq_length_filter, ruled_winner _ _ hne⟩

/-- the same with the existence of the showdown included (pairwise different cards never collide) -/
theorem C03_winner_len_exists {W : Type} (board : List Card) (ps : List Combo) (prob : W) (h : WfTable board ps)
    (hnd : (tableCards board ps).Nodup) (hne : ps ≠ []) :
    ∃ sd : Showdown W, showdownNew ps board prob = .ok (some sd) ∧ sd.players.length = ps.length
      ∧ ∀ dbg, ∃ k, winnerLen sd dbg = .ok k ∧ k = (sd.players.filter (·.win)).length ∧ 1 ≤ k ∧ k ≤ 23 := by
  have hsd := showdownNew_some board ps prob h ((nodup_tableCards board ps).mp hnd).2.2
  refine ⟨_, hsd, ruled_length _ _, fun dbg => ?_⟩
  obtain ⟨k, hk, rfl, h1⟩ := C03_winner_len board ps prob h hnd hne _ hsd dbg
  exact ⟨_, hk, rfl, h1, Nat.le_trans (List.length_filter_le _ _)
    (Nat.le_trans (Nat.le_of_eq (ruled_length _ _)) (players_le_23 board ps h hnd))⟩

/-- `ShowdownPlayer::cards()`: the five board cards first, then the two hole cards -/
def playerCards (board : List Card) (hole : Combo) : List Card := board ++ [hole.fst, hole.snd]

/-- **C03 (`cards()` order).** Evaluating `player.cards()` (board first) gives what the evaluation of the
hole cards followed by the board gave: `MadeHand::from(player.cards()) == player.hand()`. -/
theorem C03_cards_order (board : List Card) (hole : Combo) (hb : board.length = 5)
    (hbv : ∀ c ∈ board, c.valid = true) (hp : hole.fst.valid = true ∧ hole.snd.valid = true) :
    eval7 (playerCards board hole) = eval7 ([hole.fst, hole.snd] ++ board) := by
  refine Lemmas.eval7_perm List.perm_append_comm (fun c hc => ?_) (by simp [playerCards, hb])
  simp only [playerCards, List.mem_append, List.mem_cons, List.not_mem_nil, or_false] at hc
  rcases hc with hc | rfl | rfl
  · exact hbv c hc
  · exact hp.1
  · exact hp.2

/-- for every listed player of a produced showdown, `cards()` evaluates to the stored hand, and it is the
class of the best five-card hand among these seven cards -/
theorem C03_cards_hand {W : Type} (board : List Card) (ps : List Combo) (prob : W) (h : WfTable board ps)
    (sd : Showdown W) (hsd : showdownNew ps board prob = .ok (some sd)) :
    ∀ pl ∈ sd.players, eval7 (playerCards sd.board pl.hole) = .ok pl.hand
      ∧ pl.hand = best ((playerCards sd.board pl.hole).map C01.toSpec) := by
  obtain ⟨-, rfl⟩ := eq_of_some board ps prob h sd hsd
  intro pl hpl
  obtain ⟨h7, hh⟩ := seven_of_player board ps prob h _ hsd pl hpl
  have hperm : (sevenCards pl.hole board).Perm (playerCards board pl.hole) :=
    List.perm_append_comm (l₁ := [pl.hole.fst, pl.hole.snd])
  exact ⟨(C01.C01_order _ _ hperm h7.len h7.nodup h7.valid).symm.trans (hh ▸ h7.eval),
    hh.trans (Lemmas.best_perm (hperm.map _))⟩

/-! ### instances at the data of `Props/Witness/C03.lean` -/

namespace RulesWitness
open EspadaVerif.C03.Witness

/-- board A♠ K♦ 7♣ 9♠ 2♠ with K♥K♣, Q♠J♠, Q♥J♦: eleven different cards -/
theorem table_nodup : (tableCards board ps).Nodup := by decide
theorem table_nodup₂ : (tableCards board ps₂).Nodup := by decide
/-- the hypothesis is a real restriction: with `ps₃` the A♠ is both on the board and in a hand -/
example : ¬ (tableCards board ps₃).Nodup := by decide

/-- `C03_rules` on the one-winner table and on the split pot, with the showdown that exists -/
example : ∃ sd : Showdown Nat, showdownNew ps board prob = .ok (some sd) ∧ sd.players = players
    ∧ ∀ pl ∈ players, (pl.win = true ↔ ∀ pl' ∈ players,
        bestStrength ((sevenCards pl'.hole board).map C01.toSpec)
          ≤ bestStrength ((sevenCards pl.hole board).map C01.toSpec)) := by
  obtain ⟨sd, hsd, hp, _⟩ := C03_some_closed
  have := C03_rules board ps prob wf sd hsd
  rw [hp] at this
  exact ⟨sd, hsd, hp, this⟩

example : ∃ sd : Showdown Nat, showdownNew ps₂ board prob = .ok (some sd) ∧ sd.players = players₂
    ∧ ∀ pl ∈ players₂, (pl.win = true ↔ ∀ pl' ∈ players₂,
        bestStrength ((sevenCards pl'.hole board).map C01.toSpec)
          ≤ bestStrength ((sevenCards pl.hole board).map C01.toSpec)) := by
  obtain ⟨sd, hsd, hp, _⟩ := C03_some_at_witness₂
  have := C03_rules board ps₂ prob wf₂ sd hsd
  rw [hp] at this
  exact ⟨sd, hsd, hp, this⟩

/-- `C03_winner_len` on the split pot: two winners, in a debug and in a release build -/
example : ∃ sd : Showdown Nat, showdownNew ps₂ board prob = .ok (some sd)
    ∧ winnerLen sd true = .ok 2 ∧ winnerLen sd false = .ok 2 := by
  obtain ⟨sd, hsd, hp, _⟩ := C03_some_at_witness₂
  have key : ∀ dbg, winnerLen sd dbg = .ok 2 := fun dbg => by
    obtain ⟨k, hk, he, _⟩ := C03_winner_len board ps₂ prob wf₂ table_nodup₂ (by decide) sd hsd dbg
    rw [hp] at he
    rw [hk, he]; rfl
  exact ⟨sd, hsd, key true, key false⟩

example : ∃ sd : Showdown Nat, showdownNew ps board prob = .ok (some sd) ∧ sd.players.length = ps.length
    ∧ ∀ dbg, ∃ k, winnerLen sd dbg = .ok k ∧ k = (sd.players.filter (·.win)).length ∧ 1 ≤ k ∧ k ≤ 23 :=
  C03_winner_len_exists board ps prob wf table_nodup (by decide)

example : ps.length ≤ 23 := players_le_23 board ps wf table_nodup

/-- `C03_cards_order` for Q♠J♠ on the witness board; cross-check: both orders evaluate to the flush 501 -/
example : eval7 (playerCards board ⟨⟨2, 0⟩, ⟨3, 0⟩⟩) = eval7 ([⟨2, 0⟩, ⟨3, 0⟩] ++ board) :=
  C03_cards_order board ⟨⟨2, 0⟩, ⟨3, 0⟩⟩ (by decide) (by decide) (by decide)
example : eval7 (playerCards board ⟨⟨2, 0⟩, ⟨3, 0⟩⟩) = .ok 501
    ∧ eval7 ([⟨2, 0⟩, ⟨3, 0⟩] ++ board) = .ok 501 := by decide +kernel
example : playerCards board ⟨⟨2, 0⟩, ⟨3, 0⟩⟩ ≠ [⟨2, 0⟩, ⟨3, 0⟩] ++ board := by decide

example : ∃ sd : Showdown Nat, showdownNew ps board prob = .ok (some sd)
    ∧ ∀ pl ∈ sd.players, eval7 (playerCards sd.board pl.hole) = .ok pl.hand
      ∧ pl.hand = best ((playerCards sd.board pl.hole).map C01.toSpec) := by
  obtain ⟨sd, hsd, _⟩ := C03_some_closed
  exact ⟨sd, hsd, C03_cards_hand board ps prob wf sd hsd⟩

end RulesWitness

end EspadaVerif.C03
