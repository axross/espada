/-
C04 — Scoped evaluators tile the enumeration: chained scopes reproduce the full run.

The refinement theorem `C02.C02_refines` is stated for an arbitrary scope `[a, b)`; the rest is the fact that
the specification's position lists concatenate (`positionsBetween_append`, `ValidScope.chain`).
-/
import EspadaVerif.Props.C02

namespace EspadaVerif.C04
open Spec C02 EspadaVerif.IterLemmas

variable {W : Type}

/-- `k` further `next()` calls, collecting what they return -/
def nextN (ops : WOps W) : Nat → IterState W → Res (List (Option (Showdown W)) × IterState W)
  | 0, s => .ok ([], s)
  | k + 1, s =>
    match next ops s with
    | .ok (o, s') =>
      match nextN ops k s' with
      | .ok (os, s'') => .ok (o :: os, s'')
      | .err => .err
      | .panic => .panic
    | .err => .err
    | .panic => .panic

/-- **C04 (scoped).** An evaluator scoped to `[a, b)` yields exactly the showdowns of the legal deals at the
positions `a ≤ p < b`, position by position in lexicographic order. (This is `C02_refines`.) -/
theorem C04_scoped (ops : WOps W) (flop : List Card) (ranges : List (List (Combo × W))) (a b : Nat × Nat)
    (h : WfInput flop ranges) (hs : ValidScope a b) :
    ∃ s₀ : IterState W, (mkEvaluator flop ranges a b).intoIter = .ok s₀ ∧
    ∃ (sds : List (Showdown W)) (sEnd : IterState W),
      (∀ limit, sds.length < limit → drainFuel ops limit s₀ [] = .ok (sds, sEnd))
      ∧ (deals (flop.map Card.code) (specEntries ranges) a b).map (showdownOfDeal ops flop)
          = sds.map (fun sd => .ok (some sd))
      ∧ next ops sEnd = .ok (none, sEnd) :=
  C02_refines ops flop ranges a b h hs

/-- **C04 (stays exhausted).** After the enumeration has ended, any number of further `next()` calls return
`None` and leave the iterator unchanged. -/
theorem C04_exhausted (ops : WOps W) (sEnd : IterState W) (hend : next ops sEnd = .ok (none, sEnd)) (k : Nat) :
    nextN ops k sEnd = .ok (List.replicate k none, sEnd) := by
  induction k with
  | zero => rfl
  | succ k ih =>
    simp only [nextN, hend, ih, List.replicate_succ]

theorem deals_append (flop : List Nat) (entries : List (List (Nat × Nat × W))) (a b c : Nat × Nat)
    (hab : ValidScope a b) (hbc : ValidScope b c) :
    deals flop entries a b ++ deals flop entries b c = deals flop entries a c := by
  rw [deals_eq_blocks, deals_eq_blocks, deals_eq_blocks, ← List.flatMap_append,
    positionsBetween_append hab.ordered hbc.ordered]

/-- **C04 (chain).** Any chain of scopes in which each starts where the previous one ended yields, piece after
piece, exactly the deals of the scope from the first start to the last end: every showdown of the full
enumeration exactly once when the chain runs from `(0,1)` to `(48,49)`. -/
theorem C04_chain (flop : List Nat) (entries : List (List (Nat × Nat × W))) (p₀ : Nat × Nat) (cuts : List (Nat × Nat))
    (hchain : ∀ xy ∈ (p₀ :: cuts).zip cuts, ValidScope xy.1 xy.2) :
    ((p₀ :: cuts).zip cuts).flatMap (fun xy => deals flop entries xy.1 xy.2)
      = deals flop entries p₀ ((p₀ :: cuts).getLast (by simp)) := by
  simp only [deals_eq_blocks]
  exact Lemmas.flatMap_pieces (ValidScope.chain cuts p₀ hchain).1 _

/-- the unscoped evaluator is the one scoped from the first position to the terminal -/
theorem C04_default_scope (flop : List Card) (ranges : List (List (Combo × W))) :
    Evaluator.new (flop.map some ++ [none, none]) ranges = mkEvaluator flop ranges (0, 1) (48, 49) := by
  rfl

/-- `scope()`: a trap when the assertions are compiled in and one of them fails, the four stores otherwise -/
theorem scope_def (e : Evaluator W) (tf rf tt rt : Nat) (dbg : Bool) :
    e.scope tf rf tt rt dbg = if dbg = true ∧ ¬ (tf ≤ tt ∧ tf < rf ∧ tt < rt) then .panic
      else .ok { e with turnFrom := tf, riverFrom := rf, turnTo := tt, riverTo := rt } := by
  unfold Evaluator.scope
  by_cases h : tf ≤ tt ∧ tf < rf ∧ tt < rt
  · simp [h]
  · cases dbg <;> simp [h, and_assoc]

theorem scope_eq (e : Evaluator W) (tf rf tt rt : Nat) (dbg : Bool)
    (h : dbg = true → tf ≤ tt ∧ tf < rf ∧ tt < rt) :
    e.scope tf rf tt rt dbg = .ok { e with turnFrom := tf, riverFrom := rf, turnTo := tt, riverTo := rt } := by
  rw [scope_def, if_neg fun ⟨hd, hn⟩ => hn (h hd)]

/-- **C04 (re-scoping).** A later `scope()` call replaces an earlier one. -/
theorem C04_rescope (e e' : Evaluator W) (x y : Nat × Nat × Nat × Nat) (dbg : Bool)
    (h1 : e.scope x.1 x.2.1 x.2.2.1 x.2.2.2 dbg = .ok e') :
    e'.scope y.1 y.2.1 y.2.2.1 y.2.2.2 dbg = e.scope y.1 y.2.1 y.2.2.1 y.2.2.2 dbg := by
  rw [scope_def] at h1
  split at h1
  · cases h1
  · cases h1
    rw [scope_def, scope_def]

end EspadaVerif.C04
