/-
C06 — Formatting a range and parsing the text back gives the same range.

Weights range over a domain `inDom` (the weights in [0,1]) on which the assumed properties of `f32` text
conversion hold (`TextDefs.WTextOk`): `==` is equality, a weight other than 1 prints in the weight grammar,
print-then-parse is the identity, the empty text is not a number.
-/
import EspadaVerif.Lemmas.RoundtripRange

namespace EspadaVerif.C06
open TextDefs

variable {W : Type}

/-- **C06 (token).** The text of every token that satisfies the parser's own well-formedness conditions (`TokenOk`:
every parsed token does, `TokenFacts.parseToken_tokenOk`, and so does every token the formatter emits for a range whose
current entries are real combos with weights in the domain, `RoundtripRange.toks_sound`) parses back to an equal token. -/
theorem C06_token (wt : WText W) (inDom : W → Prop) (hok : WTextOk wt inDom) (tok : Token W)
    (hk : TokenFacts.TokenOk tok.kind) (hw : inDom tok.prob) :
    parseToken wt (tok.show wt) = .ok tok :=
  RoundtripToken.parse_show wt inDom hok tok hk hw

/-- **C06 (range), contents form.** For every range whose CURRENT entries are pairs of distinct cards (in canonical
order) with weights in the domain — whatever was inserted and overwritten before — the text form parses back to a range
with the same combos and the same weights, however the combos group into complete rank pairs, runs of adjacent rank
pairs with equal weight, or leftover single combos. -/
theorem C06_range_contents (wt : WText W) (inDom : W → Prop) (hok : WTextOk wt inDom) (r : HandRange W)
    (hr : ∀ c w, r.lookup c = some w → ComboOk c ∧ inDom w) :
    ∃ txt r', showRange wt r = .ok txt ∧ parseRange wt txt = .ok r' ∧ ∀ c, r'.lookup c = r.lookup c := by
  -- the tokens the formatter writes: all well formed, weights in the domain, expansions inside the range
  obtain ⟨toks, htoks⟩ : ∃ toks, showRangeTokens wt r = .ok toks := ⟨_, FormatFacts.showRangeTokens_eq wt r⟩
  have hsound := RoundtripRange.toks_sound wt inDom hok r hr toks htoks
  -- the re-parsed history holds exactly the entries of the expansions of the tokens
  obtain ⟨r', hparse, hmem⟩ := RoundtripRange.parseRange_join_show wt toks fun tok ht =>
    C06_token wt inDom hok tok (hsound tok ht).1 (hsound tok ht).2.1
  refine ⟨_, r', FormatFacts.showRange_of_tokens htoks, hparse, RoundtripRange.lookup_eq_of r r' ?_ ?_⟩
  · intro c w hcw
    obtain ⟨tok, ht, es, hes, he⟩ := (hmem (c, w)).mp hcw
    exact (hsound tok ht).2.2 es hes (c, w) he
  · intro c w hl
    obtain ⟨tok, ht, es, w', hes, he⟩ := RoundtripRange.toks_cover wt inDom hok r hr toks htoks c w hl
    exact ⟨w', (hmem (c, w')).mpr ⟨tok, ht, es, hes, he⟩⟩

/-- **C06 (range).** For every range whose combos are pairs of distinct cards (in canonical order) with weights in the
domain, the text form parses back to a range with the same combos and the same weights — however the combos group
into complete rank pairs, runs of adjacent rank pairs with equal weight, or leftover single combos.  (The hypothesis
speaks of every insert of the history; `C06_range_contents` asks it of the current entries only.) -/
theorem C06_range (wt : WText W) (inDom : W → Prop) (hok : WTextOk wt inDom) (r : HandRange W)
    (hr : ∀ e ∈ r, ComboOk e.1 ∧ inDom e.2) :
    ∃ txt r', showRange wt r = .ok txt ∧ parseRange wt txt = .ok r' ∧ ∀ c, r'.lookup c = r.lookup c :=
  C06_range_contents wt inDom hok r (r.contents_hyp_of_history (P := fun c w => ComboOk c ∧ inDom w) hr)

end EspadaVerif.C06
