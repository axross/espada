/-
C08 (bounds) — the `Nat` arithmetic of the iterator model is faithful to the machine integers of the code.

The model (`Model/Iter.lean`) computes `t + 1`, `r + 1`, `idx + 1` on unbounded naturals; the Rust code keeps
`current_turn_index`, `current_river_index`, `turn_to`, `river_to` in `u8` and the per-player counters in
`usize`.  This file proves the invariant that makes the two agree: in EVERY state the iterator can be in
between two iterations of the loop of `next` (`Reachable`: the initial state and every state produced by one
more `step`, so the intermediate states of the skip loop inside one `next()` call are included)

  `t ≤ 48`, `r ≤ 49`, `t < r`, `turn_to ≤ 48`, `river_to ≤ 49`, every counter `<` its player's entry count
  (`= 0` for an empty list),

hence every value ever stored in a `u8` field is `≤ 49 < 256`, every `+ 1` performed on one yields at most 49
and every `+ 1` performed on a counter yields at most the length of a `Vec` (`C08_u8`, `C08_advance_arith`).
No debug-build overflow trap and no release-build wrap-around can occur, so "debug and release alike" holds for
the arithmetic.  Only `ValidScope a b` is needed (not even a well-formed input).

`C08_steps` gives the exact number of loop iterations of a full run (the number `IterLemmas.run_scope` bounds by
the fuel of `next`).

Before the instances stands a finding about `scope()` that needs the invariant (namespace `EspadaVerif.C04`): the
`debug_assert!`s are weaker than `ValidScope`; a bound `(tt, 49)` acts like `(48, 49)` (`C04_to_river49`), other
arguments they let through make `next()` panic.
-/
import EspadaVerif.Props.C04
import EspadaVerif.Props.Witness.Common
import EspadaVerif.Lemmas.Decide


namespace EspadaVerif.C08
open Spec C02 EspadaVerif.IterLemmas

variable {W : Type}

/-- the states the iterator passes through, one loop iteration (`step`) at a time, starting from `s₀`;
`step` answers `done` without changing the state, `yield`/`skip` with the advanced state -/
inductive Reachable (ops : WOps W) (s₀ : IterState W) : IterState W → Prop
  | init : Reachable ops s₀ s₀
  | after {s s' : IterState W} {o : StepOut W} :
      Reachable ops s₀ s → EspadaVerif.step ops s = .ok (o, s') → Reachable ops s₀ s'

theorem Reachable.trans {ops : WOps W} {s₀ s₁ s₂ : IterState W}
    (h1 : Reachable ops s₀ s₁) (h2 : Reachable ops s₁ s₂) : Reachable ops s₀ s₂ := by
  induction h2 with
  | init => exact h1
  | after _ hs ih => exact Reachable.after ih hs

theorem Reachable.head {ops : WOps W} {s s₁ s₂ : IterState W} {o : StepOut W}
    (hs : step ops s = .ok (o, s₁)) (h : Reachable ops s₁ s₂) : Reachable ops s s₂ :=
  (Reachable.after .init hs).trans h

theorem Reachable.of_runs {ops : WOps W} {s s' : IterState W} {outs : List (Option (Showdown W))}
    (h : Runs ops s outs s') : Reachable ops s s' := by
  induction h with
  | nil s => exact .init
  | yield hs _ ih | skip hs _ ih => exact .head hs ih

theorem Reachable.of_nextFuel (ops : WOps W) (fuel : Nat) (s : IterState W) {s' : IterState W}
    {o : Option (Showdown W)} (h : nextFuel ops fuel s = .ok (o, s')) : Reachable ops s s' := by
  -- the cases of `nextFuel`: no fuel; `step` answers done, yield, skip, `err`, `panic`
  fun_induction nextFuel ops fuel s with
  | case2 _ _ _ hs | case3 _ _ _ _ hs => cases h; exact .after .init hs
  | case4 _ _ _ hs ih => exact .head hs (ih h)
  | case1 | case5 | case6 => cases h

theorem Reachable.of_drain (ops : WOps W) (limit : Nat) (s : IterState W) (acc : List (Showdown W))
    {l : List (Showdown W)} {s' : IterState W} (h : drainFuel ops limit s acc = .ok (l, s')) :
    Reachable ops s s' := by
  -- the cases of `drainFuel`: limit 0; `next` answers `some`, `none`, `err`, `panic`
  fun_induction drainFuel ops limit s acc with
  | case1 => cases h; exact .init
  | case2 _ _ _ _ _ hs ih => exact (Reachable.of_nextFuel ops _ _ hs).trans (ih h)
  | case3 _ _ _ _ hs => cases h; exact .of_nextFuel ops _ _ hs
  | case4 | case5 => cases h

/-- every counter is below its player's entry count, or is 0 for an empty list; same number of both -/
def CountersOk : List Nat → List Nat → Prop
  | [], [] => True
  | i :: v, n :: lens => (i < n ∨ (n = 0 ∧ i = 0)) ∧ CountersOk v lens
  | _, _ => False

theorem countersOk_replicate : ∀ {k : Nat} {lens : List Nat}, k = lens.length →
    CountersOk (List.replicate k 0) lens
  | _, [], rfl => True.intro
  | _, n :: _, rfl => ⟨by omega, countersOk_replicate rfl⟩

theorem CountersOk.length : ∀ {v lens : List Nat}, CountersOk v lens → v.length = lens.length
  | [], [], _ => rfl
  | [], _ :: _, h | _ :: _, [], h => h.elim
  | _ :: _, _ :: _, h => congrArg (· + 1) h.2.length

theorem CountersOk.get : ∀ {v lens : List Nat}, CountersOk v lens →
    ∀ (i c n : Nat), v[i]? = some c → lens[i]? = some n → c < n ∨ (n = 0 ∧ c = 0)
  | [], _, _, _, _, _, hc, _ => nomatch hc
  | _ :: _, [], h, _, _, _, _, _ => h.elim
  | _ :: _, _ :: _, h, 0, _, _, hc, hn => by cases hc; cases hn; exact h.1
  | _ :: _, _ :: _, h, i + 1, c, n, hc, hn => CountersOk.get h.2 i c n hc hn

theorem CountersOk.bump : ∀ {v lens : List Nat} {k : Nat}, incrementable v lens = some k →
    CountersOk v lens → CountersOk (bump v k) lens
  | [], _, _, h, _ => nomatch h
  | _ :: _, [], _, _, hc => hc.elim
  | _ :: _, _ :: _, _, h, hc => by
    rcases incrementable_cons_some h with ⟨k', hk', rfl⟩ | ⟨_, hlt, rfl⟩
    · rw [bump_succ]
      exact ⟨hc.1, CountersOk.bump hk' hc.2⟩
    · rw [bump_zero]
      exact ⟨Or.inl hlt, countersOk_replicate hc.2.length⟩

/-- what holds in every reachable state of the iterator of `mkEvaluator flop ranges a b` -/
structure Inv (ranges : List (List (Combo × W))) (b : Nat × Nat) (s : IterState W) : Prop where
  turnTo : s.turnTo = b.1
  riverTo : s.riverTo = b.2
  entries : s.entries = ranges
  pos_valid : validPos (s.t, s.r) = true
  pos_le : posLe (s.t, s.r) b = true
  counters : CountersOk s.idx (ranges.map List.length)

theorem Inv.counter {ranges : List (List (Combo × W))} {b : Nat × Nat} {s : IterState W} (hi : Inv ranges b s)
    {i c : Nat} {es : List (Combo × W)} (hc : s.idx[i]? = some c) (hes : s.entries[i]? = some es) :
    c < es.length ∨ (es = [] ∧ c = 0) := by
  rw [hi.entries] at hes
  exact (hi.counters.get i c es.length hc (by rw [List.getElem?_map, hes]; rfl)).imp_right
    (.imp_left List.eq_nil_of_length_eq_zero)

theorem inv_init (flop : List Card) (ranges : List (List (Combo × W))) (a b : Nat × Nat) (hs : ValidScope a b)
    (s₀ : IterState W) (h0 : (mkEvaluator flop ranges a b).intoIter = .ok s₀) : Inv ranges b s₀ := by
  obtain ⟨rfl, _⟩ := intoIter_ok h0
  exact ⟨rfl, rfl, rfl, hs.from_valid, hs.ordered, countersOk_replicate (List.length_map _).symm⟩

/-- in a state where the stop test of `next` fails the bound is still ahead (so `nextPos_valid` applies) -/
theorem Inv.lt_of_not_stopped {ranges : List (List (Combo × W))} {b : Nat × Nat} {s : IterState W}
    (hi : Inv ranges b s) (hstop : ¬ (s.turnTo ≤ s.t ∧ s.riverTo ≤ s.r)) : posLt (s.t, s.r) b = true := by
  refine ((posLe_iff_lt_or_eq _ _).mp hi.pos_le).resolve_right fun h => hstop ?_
  rw [hi.turnTo, hi.riverTo, ← h]
  exact ⟨Nat.le_refl _, Nat.le_refl _⟩

theorem inv_step (ops : WOps W) {ranges : List (List (Combo × W))} {b : Nat × Nat} {s s' : IterState W}
    {o : StepOut W} (hb : validPos b = true) (hi : Inv ranges b s) (h : step ops s = .ok (o, s')) :
    Inv ranges b s' := by
  rcases step_cases ops h with ⟨_, rfl⟩ | ⟨rfl, hstop, _, _⟩
  · exact hi
  · obtain ⟨_, hv, hle⟩ := nextPos_valid hi.pos_valid hb (hi.lt_of_not_stopped hstop)
    rcases advance_cases s with ⟨k, hk, e⟩ | ⟨_, e⟩ <;> rw [e]
    · exact { hi with counters := hi.counters.bump (hi.entries ▸ hk) }
    · exact { hi with pos_valid := hv, pos_le := hle, counters := countersOk_replicate hi.counters.length }

theorem inv_reachable (ops : WOps W) {ranges : List (List (Combo × W))} {b : Nat × Nat} (hb : validPos b = true)
    {s s' : IterState W} (hi : Inv ranges b s) (hr : Reachable ops s s') : Inv ranges b s' := by
  induction hr with
  | init => exact hi
  | after _ hstep ih => exact inv_step ops hb ih hstep

/-- **C08 (invariant).** Every reachable state of the iterator of a validly scoped evaluator satisfies `Inv`. -/
theorem C08_inv (ops : WOps W) (flop : List Card) (ranges : List (List (Combo × W))) (a b : Nat × Nat)
    (hs : ValidScope a b) (s₀ : IterState W) (h0 : (mkEvaluator flop ranges a b).intoIter = .ok s₀)
    (s : IterState W) (hr : Reachable ops s₀ s) : Inv ranges b s :=
  inv_reachable ops hs.to_valid (inv_init flop ranges a b hs s₀ h0) hr

/-- **C08 (`u8` fields and counters stay in range).** In every reachable state `s` of the iterator of a
validly scoped evaluator — every state between two loop iterations, inside or between `next()` calls —
* the two `u8` indices satisfy `t ≤ 48`, `r ≤ 49`, `t < r`, and so do the two `u8` bounds `turn_to`, `river_to`
  (which are the `b` of the scope and never change): all four are `< 256`;
* the position is not beyond the bound of the scope;
* there is one counter per player, and each is `<` that player's entry count, or is `0` if the player's list
  is empty; the entry lists are those of the evaluator. -/
theorem C08_u8 (ops : WOps W) (flop : List Card) (ranges : List (List (Combo × W))) (a b : Nat × Nat)
    (hs : ValidScope a b) (s₀ : IterState W) (h0 : (mkEvaluator flop ranges a b).intoIter = .ok s₀) :
    ∀ s, Reachable ops s₀ s →
      (s.t ≤ 48 ∧ s.r ≤ 49 ∧ s.t < s.r)
      ∧ (s.turnTo = b.1 ∧ s.riverTo = b.2 ∧ s.turnTo ≤ 48 ∧ s.riverTo ≤ 49 ∧ s.turnTo < s.riverTo)
      ∧ (s.t < 256 ∧ s.r < 256 ∧ s.turnTo < 256 ∧ s.riverTo < 256)
      ∧ posLe (s.t, s.r) (s.turnTo, s.riverTo) = true
      ∧ s.entries = ranges ∧ s.idx.length = ranges.length
      ∧ ∀ (i c : Nat) (es : List (Combo × W)), s.idx[i]? = some c → s.entries[i]? = some es →
          c < es.length ∨ (es = [] ∧ c = 0) := by
  intro s hr
  have hi := C08_inv ops flop ranges a b hs s₀ h0 s hr
  have h1 : s.t ≤ 48 ∧ s.r ≤ 49 ∧ s.t < s.r := validPos_bounds hi.pos_valid
  have h2 := validPos_bounds hs.to_valid
  rw [hi.turnTo, hi.riverTo]
  exact ⟨h1, ⟨rfl, rfl, h2⟩, by omega, hi.pos_le, hi.entries, by rw [hi.counters.length, List.length_map],
    fun _ _ _ => hi.counter⟩

/-- **C08 (no `+ 1` overflows).**  One loop iteration from a reachable state either answers `done` and leaves
the state alone (no arithmetic is performed), or moves to `advance s`; in that case the position is a real one
(`t < r ≤ 48`), so each of the additions `advance` can perform on a `u8` — `current_river_index += 1`,
`current_turn_index += 1`, `current_turn_index + 1` — has a result `≤ 49`, and each addition
`current_player_indexes[ri] + 1` of the scan for the counter to increment (and the increment itself) has a
result `≤` the length of that player's `Vec`; the deck indices `t`, `r` are `< 49`. -/
theorem C08_advance_arith (ops : WOps W) (flop : List Card) (ranges : List (List (Combo × W))) (a b : Nat × Nat)
    (hs : ValidScope a b) (s₀ : IterState W) (h0 : (mkEvaluator flop ranges a b).intoIter = .ok s₀)
    (s s' : IterState W) (o : StepOut W) (hr : Reachable ops s₀ s) (hstep : step ops s = .ok (o, s')) :
    (o = .done ∧ s' = s)
    ∨ ((o = .skip ∨ ∃ sd, o = .yield sd) ∧ s' = advance s
        ∧ s.t < s.r ∧ s.r < 49
        ∧ s.r + 1 ≤ 49 ∧ s.t + 1 ≤ 48 ∧ s.t + 1 + 1 ≤ 49
        ∧ (s'.t ≤ 48 ∧ s'.r ≤ 49 ∧ s'.t < s'.r)
        ∧ ∀ (i c : Nat) (es : List (Combo × W)), s.idx[i]? = some c → s.entries[i]? = some es →
            c + 1 ≤ es.length) := by
  have hi := C08_inv ops flop ranges a b hs s₀ h0 s hr
  rcases step_cases ops hstep with h | ⟨e, hstop, hemp, ho⟩
  · exact Or.inl h
  · obtain ⟨hp, _, _⟩ := nextPos_valid hi.pos_valid hs.to_valid (hi.lt_of_not_stopped hstop)
    refine Or.inr ⟨ho, e, hp.1, hp.2, by omega, by omega, by omega,
      validPos_bounds (inv_step ops hs.to_valid hi hstep).pos_valid, fun i c es hci hes => ?_⟩
    -- an empty entry list would have ended the iteration
    refine (hi.counter hci hes).resolve_right fun ⟨h, _⟩ => hemp ?_
    rw [List.any_eq_true]
    exact ⟨es, List.mem_of_getElem? hes, by rw [h]; rfl⟩

/-- the same bounds for what a caller can observe: the state after any number of `next()` calls -/
theorem C08_u8_after_drain (ops : WOps W) (flop : List Card) (ranges : List (List (Combo × W))) (a b : Nat × Nat)
    (hs : ValidScope a b) (s₀ : IterState W) (h0 : (mkEvaluator flop ranges a b).intoIter = .ok s₀)
    (limit : Nat) (l : List (Showdown W)) (s : IterState W) (hd : drainFuel ops limit s₀ [] = .ok (l, s)) :
    s.t ≤ 48 ∧ s.r ≤ 49 ∧ s.t < s.r :=
  (C08_u8 ops flop ranges a b hs s₀ h0 s (Reachable.of_drain ops limit s₀ [] hd)).1

/-- **C08 (number of loop iterations).**  The full run of the iterator of a proper input scoped to `[a, b)`
consists of EXACTLY `(number of positions in [a, b)) × Π (entry counts)` iterations that yield or skip
(`outs`: one entry per iteration, `some` = yield, `none` = skip; `0` of them when some range is empty), followed
by a state in which every further iteration answers `done` (one such iteration per `next()` call that returns
`None`).  That number is at most `1176 × Π (entry counts)` and is below the fuel `next` runs with, so the loop
of `next` always terminates; the showdowns yielded are the drain.  The run is the only one (`step` is a
function). -/
theorem C08_steps (ops : WOps W) (flop : List Card) (ranges : List (List (Combo × W))) (a b : Nat × Nat)
    (h : WfInput flop ranges) (hs : ValidScope a b) :
    ∃ (s₀ sEnd : IterState W) (outs : List (Option (Showdown W))),
      (mkEvaluator flop ranges a b).intoIter = .ok s₀
      ∧ Runs ops s₀ outs sEnd ∧ step ops sEnd = .ok (.done, sEnd)
      ∧ outs.length = (positionsBetween a b).length * (ranges.map List.length).foldl (· * ·) 1
      ∧ outs.length ≤ 1176 * (ranges.map List.length).foldl (· * ·) 1
      ∧ outs.length < fuelFor s₀
      ∧ (∀ limit, (outs.filterMap id).length < limit →
          drainFuel ops limit s₀ [] = .ok (outs.filterMap id, sEnd))
      ∧ ∀ (sEnd' : IterState W) (outs' : List (Option (Showdown W))), Runs ops s₀ outs' sEnd' →
          step ops sEnd' = .ok (.done, sEnd') → outs' = outs ∧ sEnd' = sEnd := by
  obtain ⟨sEnd, hrun, _⟩ := run_scope ops h.wfFlop h.rv hs
  have hlen := outsOf_length ops flop ranges a b
  exact ⟨_, sEnd, _, intoIter_eq flop ranges a b h.wfFlop, hrun.runs, hrun.done, hlen,
    hlen ▸ Nat.mul_le_mul_right _ (positionsBetween_length_le a b), fuelFor_eq hrun.runs.entries ▸ hrun.fuel,
    hrun.drain.1, fun _ _ => hrun.runs.unique hrun.done⟩

/-- every state on that run is within the machine-integer bounds (`C08_u8` applies to it) -/
theorem C08_steps_bounded (ops : WOps W) (flop : List Card) (ranges : List (List (Combo × W))) (a b : Nat × Nat)
    (hs : ValidScope a b) (s₀ : IterState W) (h0 : (mkEvaluator flop ranges a b).intoIter = .ok s₀)
    (outs₁ : List (Option (Showdown W))) (s : IterState W) (hrun : Runs ops s₀ outs₁ s) :
    s.t ≤ 48 ∧ s.r ≤ 49 ∧ s.t < s.r :=
  (C08_u8 ops flop ranges a b hs s₀ h0 s (Reachable.of_runs hrun)).1

end EspadaVerif.C08

/-! ### a finding about `scope()`: the assertions are weaker than `ValidScope`

The three `debug_assert!`s accept arguments that are not a `ValidScope`.  Two kinds are harmless or fatal:
* `to = (tt, 49)` with `tt < 48` (not a position: river index 49 goes with turn index 48 only) passes the
  assertions — the crate's own test `it_iterates_scoped_from_32_48_to_47_49` uses it.  The stop test
  `t ≥ tt && r ≥ 49` can only fire at `(48, 49)`, so such an evaluator runs to the END of the enumeration:
  it behaves exactly like `to = (48, 49)` (`C04_to_river49`, proved by simulation: `retarget` commutes with
  `step` on every reachable state).  This is the model-level fact behind defect D10.
* `river_from = 49` with `turn_from < 48`, or `river_to > 49`, also pass the assertions and make `next()` index
  the 49-card deck at 49: a panic (examples in `BoundsWitness` below).  `ValidScope` excludes them; nothing in
  the crate's public API does.
-/
namespace EspadaVerif.C04
open C02 EspadaVerif.IterLemmas EspadaVerif.C08

variable {W : Type}

/-- `s` with the bound `(tt, s.riverTo)`.  For `tt ≤ 48` and under the invariant of the bound `(48, 49)` every call
on the retargeted state returns what the call on `s` returns, retargeted (`mapState`): a simulation, stated call
by call in `step_retarget` … `drainFuel_retarget` -/
def retarget (tt : Nat) (s : IterState W) : IterState W := { s with turnTo := tt }

def mapState (tt : Nat) {α : Type} : Res (α × IterState W) → Res (α × IterState W)
  | .ok (o, s') => .ok (o, retarget tt s')
  | .err => .err
  | .panic => .panic

theorem attempt_retarget (ops : WOps W) (tt : Nat) (s : IterState W) :
    attempt ops (retarget tt s) = attempt ops s := rfl

theorem advance_retarget (tt : Nat) (s : IterState W) : advance (retarget tt s) = retarget tt (advance s) := by
  simp only [advance, retarget]
  cases incrementable s.idx (s.entries.map List.length) with
  | some k => rfl
  | none => by_cases h : s.r < Gen.riverRollover <;> simp only [h, if_true, if_false]

/-- `turn_to` is read by the stop test only, and with `river_to = 49` only `(48, 49)` passes that, whether
`turn_to` is 48 or less -/
theorem step_retarget (ops : WOps W) {ranges : List (List (Combo × W))} {tt : Nat} (htt : tt ≤ 48)
    {s : IterState W} (hi : Inv ranges (48, 49) s) : step ops (retarget tt s) = mapState tt (step ops s) := by
  have hc : (tt ≤ s.t ∧ s.riverTo ≤ s.r) ↔ (s.turnTo ≤ s.t ∧ s.riverTo ≤ s.r) := by
    have := hi.pos_valid
    simp only [validPos_iff, Prod.ext_iff] at this
    rw [hi.turnTo, hi.riverTo]
    omega
  rw [step_eq, step_eq, attempt_retarget, advance_retarget]
  show (if (tt ≤ s.t ∧ s.riverTo ≤ s.r) ∨ s.entries.any List.isEmpty = true then _ else _) = _
  simp only [hc]
  split
  · rfl
  · split <;> rfl

theorem nextFuel_retarget (ops : WOps W) {ranges : List (List (Combo × W))} {tt : Nat} (htt : tt ≤ 48)
    (fuel : Nat) {s : IterState W} (hi : Inv ranges (48, 49) s) :
    nextFuel ops fuel (retarget tt s) = mapState tt (nextFuel ops fuel s) := by
  fun_induction nextFuel ops fuel s with
  | case1 => rfl
  | case4 _ _ _ hs ih =>
    rw [nextFuel, step_retarget ops htt hi, hs]
    exact ih (inv_step ops (by decide) hi hs)
  | case2 _ _ _ hs | case3 _ _ _ _ hs | case5 _ _ hs | case6 _ _ hs =>
    rw [nextFuel, step_retarget ops htt hi, hs]
    rfl

theorem next_retarget (ops : WOps W) {ranges : List (List (Combo × W))} {tt : Nat} (htt : tt ≤ 48)
    {s : IterState W} (hi : Inv ranges (48, 49) s) : next ops (retarget tt s) = mapState tt (next ops s) :=
  nextFuel_retarget ops htt (fuelFor s) hi

theorem drainFuel_retarget (ops : WOps W) {ranges : List (List (Combo × W))} {tt : Nat} (htt : tt ≤ 48)
    (limit : Nat) {s : IterState W} (acc : List (Showdown W)) (hi : Inv ranges (48, 49) s) :
    drainFuel ops limit (retarget tt s) acc = mapState tt (drainFuel ops limit s acc) := by
  fun_induction drainFuel ops limit s acc with
  | case1 => rfl
  | case2 _ _ _ _ _ hs ih =>
    rw [drainFuel, next_retarget ops htt hi, hs]
    exact ih (inv_reachable ops (by decide) hi (.of_nextFuel ops _ _ hs))
  | case3 _ _ _ _ hs | case4 _ _ _ hs | case5 _ _ _ hs =>
    rw [drainFuel, next_retarget ops htt hi, hs]
    rfl

theorem intoIter_retarget (flop : List Card) (ranges : List (List (Combo × W))) (a : Nat × Nat) (tt : Nat)
    (s₀ : IterState W) (h : (mkEvaluator flop ranges a (48, 49)).intoIter = .ok s₀) :
    (mkEvaluator flop ranges a (tt, 49)).intoIter = .ok (retarget tt s₀) := by
  obtain ⟨rfl, hlen⟩ := intoIter_ok h
  rw [intoIter_def]
  exact if_pos hlen

/-- **C04 (a bound `(tt, 49)` acts like the terminal).**  For every `tt ≤ 48` the evaluator scoped to
`[a, (tt, 49))` has exactly the drain of the evaluator scoped to `[a, (48, 49))`: it runs to the end of the
enumeration (no well-formedness of the input is needed). -/
theorem C04_to_river49 (ops : WOps W) (flop : List Card) (ranges : List (List (Combo × W))) (a : Nat × Nat)
    (tt : Nat) (htt : tt ≤ 48) (ha : validPos a = true) (sds : List (Showdown W))
    (hd : IsDrain ops (mkEvaluator flop ranges a (48, 49)) sds) :
    IsDrain ops (mkEvaluator flop ranges a (tt, 49)) sds := by
  obtain ⟨s₀, sEnd, h0, hdr, hend⟩ := hd
  have hi0 : Inv ranges (48, 49) s₀ := inv_init flop ranges a (48, 49) (ValidScope.after ha) s₀ h0
  have hiE : Inv ranges (48, 49) sEnd :=
    inv_reachable ops (by decide) hi0 (.of_drain ops (sds.length + 1) s₀ [] (hdr _ (by omega)))
  refine ⟨retarget tt s₀, retarget tt sEnd, intoIter_retarget flop ranges a tt s₀ h0, fun limit hlim => ?_, ?_⟩
  · rw [drainFuel_retarget ops htt limit [] hi0, hdr limit hlim]
    rfl
  · rw [next_retarget ops htt hiE, hend]
    rfl

/-- `scope(a.0, a.1, tt, 49)` passes the three assertions whenever `a` is a valid start with `a.0 ≤ tt ≤ 48` -/
theorem C04_scope_river49_ok (flop : List Card) (ranges : List (List (Combo × W))) (a : Nat × Nat) (tt : Nat)
    (ha : validPos a = true) (h1 : a.1 ≤ tt) (h2 : tt ≤ 48) (dbg : Bool) :
    (Evaluator.new (flop.map some ++ [none, none]) ranges).scope a.1 a.2 tt 49 dbg
      = .ok (mkEvaluator flop ranges a (tt, 49)) := by
  rw [scope_eq]
  · rfl
  · intro _
    have := (validPos_bounds ha).2.2
    omega

end EspadaVerif.C04

namespace EspadaVerif.C08
open C02 EspadaVerif.IterLemmas

variable {W : Type}

/-! ### non-vacuity: the theorems at concrete data

Flop A♠ K♦ 7♣, two weighted two-combo ranges (weights in `Nat`); `rangesE`: the second player's range is empty.
Scopes: the full one, and the last position (47,48)–(48,49), where the model is also run in the kernel. -/
namespace BoundsWitness
open EspadaVerif.Witness

def flop : List Card := [⟨0, 0⟩, ⟨1, 2⟩, ⟨7, 3⟩]
def ranges : List (List (Combo × Nat)) :=
  [[(⟨⟨2, 0⟩, ⟨2, 1⟩⟩, 2), (⟨⟨0, 1⟩, ⟨1, 1⟩⟩, 3)], [(⟨⟨3, 0⟩, ⟨4, 0⟩⟩, 1), (⟨⟨2, 1⟩, ⟨3, 1⟩⟩, 5)]]
def rangesE : List (List (Combo × Nat)) :=
  [[(⟨⟨2, 0⟩, ⟨2, 1⟩⟩, 2), (⟨⟨0, 1⟩, ⟨1, 1⟩⟩, 3)], []]

theorem wf : WfInput flop ranges := by decide
theorem wfE : WfInput flop rangesE := by decide
theorem scope_last : ValidScope (47, 48) (48, 49) := by decide

def stepsN (ops : WOps W) : Nat → IterState W → Option (IterState W)
  | 0, s => some s
  | n + 1, s =>
    match step ops s with
    | .ok (_, s') => stepsN ops n s'
    | _ => none

theorem reachable_stepsN (ops : WOps W) (n : Nat) (s : IterState W) {s' : IterState W}
    (h : stepsN ops n s = some s') : Reachable ops s s' := by
  fun_induction stepsN ops n s with
  | case1 => cases h; exact .init
  | case2 _ _ _ _ hs ih => exact .head hs (ih h)
  | case3 => cases h

def sLast : IterState Nat :=
  { turnTo := 48, riverTo := 49, entries := ranges, deck := (allCards.filter fun c => !flop.contains c),
    board := flop.map some ++ [none, none], t := 47, r := 48, idx := [0, 0] }

theorem sLast_is_start : (mkEvaluator flop ranges (47, 48) (48, 49)).intoIter = .ok sLast := by decide +kernel

theorem C08_u8_at_witness :
    ∃ s₀ : IterState Nat, (mkEvaluator flop ranges (0, 1) (48, 49)).intoIter = .ok s₀ ∧
      ∀ s, Reachable natOps s₀ s → s.t ≤ 48 ∧ s.r ≤ 49 ∧ s.t < s.r := by
  obtain ⟨s₀, h0, _⟩ := C02_refines natOps flop ranges (0, 1) (48, 49) wf ValidScope.full
  exact ⟨s₀, h0, fun s hr => (C08_u8 natOps flop ranges (0, 1) (48, 49) ValidScope.full s₀ h0 s hr).1⟩

example : ∃ s₀ : IterState Nat, (mkEvaluator flop rangesE (0, 1) (48, 49)).intoIter = .ok s₀ ∧
    ∀ s, Reachable natOps s₀ s → s.t ≤ 48 ∧ s.r ≤ 49 ∧ s.t < s.r := by
  obtain ⟨s₀, h0, _⟩ := C02_refines natOps flop rangesE (0, 1) (48, 49) wfE ValidScope.full
  exact ⟨s₀, h0, fun s hr => (C08_u8 natOps flop rangesE (0, 1) (48, 49) ValidScope.full s₀ h0 s hr).1⟩

/-- `Reachable` is not only the initial state: four loop iterations (one position × 2 × 2 choices) lead, by
running the model, to the state `t = 48`, `r = 49` — so the bounds 48 and 49 of `C08_u8` are attained -/
theorem reach_end : ∃ s, Reachable natOps sLast s ∧ s.t = 48 ∧ s.r = 49 ∧ s.idx = [0, 0] := by
  have h : stepsN natOps 4 sLast = some { sLast with t := 48, r := 49 } := by decide +kernel
  exact ⟨_, reachable_stepsN natOps 4 _ h, rfl, rfl, rfl⟩

/-- intermediate states of the run, from the kernel: the counters walk (0,0) (0,1) (1,0) (1,1) -/
example : (stepsN natOps 1 sLast).map (·.idx) = some [0, 1] ∧ (stepsN natOps 2 sLast).map (·.idx) = some [1, 0]
    ∧ (stepsN natOps 3 sLast).map (·.idx) = some [1, 1]
    ∧ (stepsN natOps 3 sLast).map (fun s => (s.t, s.r)) = some (47, 48) := by decide +kernel

example (o : StepOut Nat) (s' : IterState Nat) (hstep : step natOps sLast = .ok (o, s')) :
    (o = .done ∧ s' = sLast)
    ∨ ((o = .skip ∨ ∃ sd, o = .yield sd) ∧ s' = advance sLast
        ∧ sLast.t < sLast.r ∧ sLast.r < 49
        ∧ sLast.r + 1 ≤ 49 ∧ sLast.t + 1 ≤ 48 ∧ sLast.t + 1 + 1 ≤ 49
        ∧ (s'.t ≤ 48 ∧ s'.r ≤ 49 ∧ s'.t < s'.r)
        ∧ ∀ (i c : Nat) (es : List (Combo × Nat)), sLast.idx[i]? = some c → sLast.entries[i]? = some es →
            c + 1 ≤ es.length) :=
  C08_advance_arith natOps flop ranges (47, 48) (48, 49) scope_last sLast sLast_is_start sLast s' o
    Reachable.init hstep

/-- 4704 = 1176 positions × 2 × 2 choices -/
theorem C08_steps_at_witness :
    ∃ (s₀ sEnd : IterState Nat) (outs : List (Option (Showdown Nat))),
      (mkEvaluator flop ranges (0, 1) (48, 49)).intoIter = .ok s₀
      ∧ Runs natOps s₀ outs sEnd ∧ step natOps sEnd = .ok (.done, sEnd) ∧ outs.length = 4704 := by
  obtain ⟨s₀, sEnd, outs, h0, hrun, hdone, hlen, _⟩ := C08_steps natOps flop ranges (0, 1) (48, 49) wf ValidScope.full
  refine ⟨s₀, sEnd, outs, h0, hrun, hdone, ?_⟩
  rw [hlen, positionsBetween_full, allPositions_length]
  rfl

/-- with an empty range: no iteration but the final one -/
example : ∃ (s₀ sEnd : IterState Nat) (outs : List (Option (Showdown Nat))),
    (mkEvaluator flop rangesE (0, 1) (48, 49)).intoIter = .ok s₀
    ∧ Runs natOps s₀ outs sEnd ∧ step natOps sEnd = .ok (.done, sEnd) ∧ outs.length = 0 := by
  obtain ⟨s₀, sEnd, outs, h0, hrun, hdone, hlen, _⟩ := C08_steps natOps flop rangesE (0, 1) (48, 49) wfE ValidScope.full
  refine ⟨s₀, sEnd, outs, h0, hrun, hdone, ?_⟩
  have e : (rangesE.map List.length).foldl (· * ·) 1 = 0 := by decide
  rw [hlen, e, Nat.mul_zero]

/-- the scope of the crate's test `it_iterates_scoped_from_32_48_to_47_49` passes the assertions … -/
example (dbg : Bool) : (Evaluator.new (flop.map some ++ [none, none]) ranges).scope 32 48 47 49 dbg
    = .ok (mkEvaluator flop ranges (32, 48) (47, 49)) :=
  C04.C04_scope_river49_ok flop ranges (32, 48) 47 (by decide) (by decide) (by decide) dbg
/-- … is not a `ValidScope` … -/
example : ¬ ValidScope (32, 48) (47, 49) := fun h => absurd h.to_valid (by decide)
/-- … and yields what the scope (32,48)–(48,49) yields -/
example (sds : List (Showdown Nat)) (h : C04.IsDrain natOps (mkEvaluator flop ranges (32, 48) (48, 49)) sds) :
    C04.IsDrain natOps (mkEvaluator flop ranges (32, 48) (47, 49)) sds :=
  C04.C04_to_river49 natOps flop ranges (32, 48) 47 (by decide) (by decide) sds h

/-- run `into_iter` and then collect `next()` with room for 50 showdowns; `none` = panic (or out of fuel) -/
def drained (a b : Nat × Nat) : Option Nat :=
  match (mkEvaluator flop ranges a b).intoIter with
  | .ok s =>
    match drainFuel natOps 50 s [] with
    | .ok (l, _) => some l.length
    | _ => none
  | _ => none

/-- `ValidScope` is needed: `scope(10, 49, 20, 30)` and `scope(47, 48, 47, 50)` pass the three assertions
(even in a debug build) and the drain then fails (`drained … = none`; running the model shows a panic, the read of
deck index 49, at once resp. after its three showdowns); the valid (47,48)–(48,49) and the tolerated
(47,48)–(47,49) return normally -/
example : (Evaluator.new (flop.map some ++ [none, none]) ranges).scope 10 49 20 30 true
      = .ok (mkEvaluator flop ranges (10, 49) (20, 30))
    ∧ (Evaluator.new (flop.map some ++ [none, none]) ranges).scope 47 48 47 50 true
      = .ok (mkEvaluator flop ranges (47, 48) (47, 50)) := ⟨rfl, rfl⟩
example : drained (10, 49) (20, 30) = none ∧ drained (47, 48) (47, 50) = none
    ∧ drained (47, 48) (48, 49) = some 3 ∧ drained (47, 48) (47, 49) = some 3 := by decide +kernel

end BoundsWitness

end EspadaVerif.C08
