/-
C01 — the comparison operators of `MadeHand`, and the `u16` accumulators of the two hashes.
-/
import EspadaVerif.Props.C01Compare


namespace EspadaVerif

/-! The property observes `==`, `<`, `cmp` on `MadeHand` values.  `struct MadeHand(u16)` derives `PartialEq, Eq, Ord`
(`Gen.madeHandDerives`, regenerated from the source on every run) and hand-writes `PartialOrd` as
`self.power_index().partial_cmp(&other.power_index())` (the translator refuses any other body: translate/extract.py,
`gen_madehand`).  `MadeHand.eq/lt/…/cmp` are these operators on the evaluated indexes; `C01_ops` restates
`C01_compare` through them. -/

namespace MadeHand

/-- derived `PartialEq` on `struct MadeHand(u16)`: `a == b` -/
def eq (i j : Nat) : Bool := i == j
/-- `a != b` -/
def ne (i j : Nat) : Bool := !(eq i j)
/-- derived `Ord` on the one `u16` field: `a.cmp(&b)` -/
def cmp (i j : Nat) : Ordering := compare i j
/-- hand-written `PartialOrd`: `self.power_index().partial_cmp(&other.power_index())` -/
def partialCmp (i j : Nat) : Option Ordering := some (compare i j)
/-- `a < b` : `matches!(a.partial_cmp(&b), Some(Less))` (default method of `PartialOrd`) -/
def lt (i j : Nat) : Bool := partialCmp i j == some .lt
/-- `a <= b` : `matches!(a.partial_cmp(&b), Some(Less | Equal))` -/
def le (i j : Nat) : Bool := partialCmp i j == some .lt || partialCmp i j == some .eq
/-- `a > b` -/
def gt (i j : Nat) : Bool := partialCmp i j == some .gt
/-- `a >= b` -/
def ge (i j : Nat) : Bool := partialCmp i j == some .gt || partialCmp i j == some .eq

theorem eq_iff (i j : Nat) : eq i j = true ↔ i = j := by simp [eq]
theorem ne_iff (i j : Nat) : ne i j = true ↔ i ≠ j := by simp [ne, eq]
theorem lt_iff (i j : Nat) : lt i j = true ↔ i < j := by simp [lt, partialCmp, Nat.compare_eq_lt]
theorem gt_iff (i j : Nat) : gt i j = true ↔ j < i := by simp [gt, partialCmp, Nat.compare_eq_gt]
theorem le_iff (i j : Nat) : le i j = true ↔ i ≤ j := by
  simp [le, partialCmp, Nat.compare_eq_lt]; omega
theorem ge_iff (i j : Nat) : ge i j = true ↔ j ≤ i := by
  simp [ge, partialCmp, Nat.compare_eq_gt]; omega
theorem cmp_lt_iff (i j : Nat) : cmp i j = .lt ↔ i < j := by simp [cmp, Nat.compare_eq_lt]
theorem cmp_eq_iff (i j : Nat) : cmp i j = .eq ↔ i = j := by simp [cmp]
theorem cmp_gt_iff (i j : Nat) : cmp i j = .gt ↔ j < i := by simp [cmp, Nat.compare_eq_gt]
/-- the hand-written `PartialOrd` is consistent with the derived `Ord` (and with the derived `Eq`) -/
theorem partialCmp_eq_cmp (i j : Nat) : partialCmp i j = some (cmp i j) := rfl

end MadeHand

namespace C01
open Spec Lemmas

/-- **C01 (operators).**  `MadeHand` derives `Ord`, `PartialEq`, `Eq`; and for two evaluated hands of
seven distinct cards each: `<` holds exactly when hand 1 beats hand 2 under the rule book, `==`
exactly on ties, `>` exactly when hand 2 beats hand 1, and `cmp` / `partial_cmp` say the same. -/
theorem C01_ops (cs₁ cs₂ : List Card) (h₁ : Seven cs₁) (h₂ : Seven cs₂) (i j : Nat)
    (e₁ : eval7 cs₁ = .ok i) (e₂ : eval7 cs₂ = .ok j) :
    ("Ord" ∈ Gen.madeHandDerives ∧ "PartialEq" ∈ Gen.madeHandDerives ∧ "Eq" ∈ Gen.madeHandDerives)
    ∧ (MadeHand.lt i j = true ↔ bestStrength (cs₂.map toSpec) < bestStrength (cs₁.map toSpec))
    ∧ (MadeHand.eq i j = true ↔ bestStrength (cs₁.map toSpec) = bestStrength (cs₂.map toSpec))
    ∧ (MadeHand.gt i j = true ↔ bestStrength (cs₁.map toSpec) < bestStrength (cs₂.map toSpec))
    ∧ (MadeHand.le i j = true ↔ bestStrength (cs₂.map toSpec) ≤ bestStrength (cs₁.map toSpec))
    ∧ (MadeHand.ge i j = true ↔ bestStrength (cs₁.map toSpec) ≤ bestStrength (cs₂.map toSpec))
    ∧ (MadeHand.ne i j = true ↔ bestStrength (cs₁.map toSpec) ≠ bestStrength (cs₂.map toSpec))
    ∧ (MadeHand.cmp i j = .lt ↔ bestStrength (cs₂.map toSpec) < bestStrength (cs₁.map toSpec))
    ∧ (MadeHand.cmp i j = .eq ↔ bestStrength (cs₁.map toSpec) = bestStrength (cs₂.map toSpec))
    ∧ (MadeHand.cmp i j = .gt ↔ bestStrength (cs₁.map toSpec) < bestStrength (cs₂.map toSpec))
    ∧ MadeHand.partialCmp i j = some (MadeHand.cmp i j) := by
  obtain ⟨hlt, heq⟩ := C01_compare cs₁ cs₂ h₁ h₂ i j e₁ e₂
  obtain ⟨hgt, -⟩ := C01_compare cs₂ cs₁ h₂ h₁ j i e₂ e₁
  rw [MadeHand.lt_iff, MadeHand.eq_iff, MadeHand.gt_iff, MadeHand.le_iff, MadeHand.ge_iff, MadeHand.ne_iff,
    MadeHand.cmp_lt_iff, MadeHand.cmp_eq_iff, MadeHand.cmp_gt_iff]
  exact ⟨by decide, hlt, heq, hgt, by omega, by omega, by omega, hlt, heq, hgt, rfl⟩

/-! non-vacuity data: board A♠ K♦ 7♣ 9♠ 2♠ with hole Q♠ J♠ (flush, class 501), hole K♥ K♣ (three kings,
class 1679), holes Q♥ J♦ / Q♦ J♣ (the same high-card hand, class 6186) -/

private def wFlush : List Card := [⟨2, 0⟩, ⟨3, 0⟩, ⟨0, 0⟩, ⟨1, 2⟩, ⟨7, 3⟩, ⟨5, 0⟩, ⟨12, 0⟩]
private def wTrips : List Card := [⟨1, 1⟩, ⟨1, 3⟩, ⟨0, 0⟩, ⟨1, 2⟩, ⟨7, 3⟩, ⟨5, 0⟩, ⟨12, 0⟩]
private def wTieA : List Card := [⟨2, 1⟩, ⟨3, 2⟩, ⟨0, 0⟩, ⟨1, 2⟩, ⟨7, 3⟩, ⟨5, 0⟩, ⟨12, 0⟩]
private def wTieB : List Card := [⟨2, 2⟩, ⟨3, 3⟩, ⟨0, 0⟩, ⟨1, 2⟩, ⟨7, 3⟩, ⟨5, 0⟩, ⟨12, 0⟩]
private theorem wFlush_seven : Seven wFlush := by decide
private theorem wTrips_seven : Seven wTrips := by decide
private theorem wTieA_seven : Seven wTieA := by decide
private theorem wTieB_seven : Seven wTieB := by decide
private theorem wFlush_eval : eval7 wFlush = .ok 501 := by decide +kernel
private theorem wTrips_eval : eval7 wTrips = .ok 1679 := by decide +kernel
private theorem wTieA_eval : eval7 wTieA = .ok 6186 := by decide +kernel
private theorem wTieB_eval : eval7 wTieB = .ok 6186 := by decide +kernel

/-- the flush `<` the trips as `MadeHand`s, hence it is the stronger hand under the rule book -/
example : bestStrength (wTrips.map toSpec) < bestStrength (wFlush.map toSpec) :=
  (C01_ops wFlush wTrips wFlush_seven wTrips_seven 501 1679 wFlush_eval wTrips_eval).2.1.mp (by decide)

/-- two different seven-card hands that compare `==`: a tie under the rule book -/
example : wTieA ≠ wTieB ∧ bestStrength (wTieA.map toSpec) = bestStrength (wTieB.map toSpec) :=
  ⟨by decide,
   (C01_ops wTieA wTieB wTieA_seven wTieB_seven 6186 6186 wTieA_eval wTieB_eval).2.2.1.mp (by decide)⟩

/-! `hash_for_rainbow` / `hash_for_flush` accumulate in a Rust `u16` (`hash += …`: debug builds trap on overflow,
release builds wrap) while the model (`rainbowWalkLoop`, `hashFlush`) adds in `Nat` with no overflow arm.
Instrumented versions of both loops return, next to the result, every value the accumulator takes; they agree with
the model's loops, every intermediate value is at most the final one, the final one is below the table length when
the lookup succeeds — and, independently of any lookup, no accumulator value reaches 65536 for any input of at most
seven cards. -/

/-- `rainbowWalkLoop` instrumented: the result, and the value of `hash` after every `hash += dp_ref(..)`
that is executed (also the one executed just before a `remaining_card_len -= len` underflow) -/
def rainbowWalkI (counts : List Nat) : List Nat → Nat → Nat → Res Nat × List Nat
  | [], h, _ => (.ok h, [])
  | r :: rs, h, rem =>
    match counts[rankU8 r]? with
    | none => (.panic, [])
    | some 0 => rainbowWalkI counts rs h rem
    | some len =>
      match dpRef len r rem with
      | .ok v =>
        if len > rem then (.panic, [h + v])
        else if rem - len = 0 then (.ok (h + v), [h + v])
        else ((rainbowWalkI counts rs (h + v) (rem - len)).1,
              (h + v) :: (rainbowWalkI counts rs (h + v) (rem - len)).2)
      | _ => (.panic, [])

/-- the most that the walk can still add when `rem` cards remain (`rem ≤ 7`): numbers for which the step
`dpRef_le_walkBound` holds on every `dp_ref` entry; what is used of them is the last, 49296 < 65536 -/
def walkBound : List Nat := [1, 13, 91, 455, 1820, 6176, 18408, 49296]

/-- one step of the bound, checked on every `dp_ref` entry with `remaining ≤ 7`: what is added stays within
`walkBound`, together with what the walk can still add afterwards when cards remain -/
theorem dpRef_le_walkBound {len r rem v : Nat} (hrem : rem ≤ 7) (e : dpRef len r rem = .ok v) :
    v ≤ walkBound.getD rem 0 ∧ (len < rem → v + walkBound.getD (rem - len) 0 ≤ walkBound.getD rem 0) := by
  have sweep : ∀ rem ∈ List.range 8, ∀ len ∈ [1, 2, 3, 4], ∀ r ∈ List.range 13,
      ∀ v ∈ (dpRef len r rem).toOption,
        v ≤ walkBound.getD rem 0 ∧ (len < rem → v + walkBound.getD (rem - len) 0 ≤ walkBound.getD rem 0) := by
    decide +kernel
  obtain ⟨hlen, hr⟩ := dpRef_ok_dom len r rem v e
  exact sweep rem (List.mem_range.mpr (by omega)) len hlen r (List.mem_range.mpr hr) v (by rw [e]; rfl)

theorem rainbowWalkI_fst (counts rs : List Nat) (h rem : Nat) :
    (rainbowWalkI counts rs h rem).1 = rainbowWalkLoop counts rs h rem := by
  fun_induction rainbowWalkI counts rs h rem <;> simp only [rainbowWalkLoop, ↓reduceIte, *]

/-- what the instrumented walk records.  The accumulator never decreases, so when the walk returns a hash
every recorded value lies between the start and that hash; and — whatever the counters and the walk order,
returning or not — from `remaining ≤ 7` every recorded value stays within `walkBound` of the start
(**no `u16` overflow in `hash_for_rainbow`, unconditionally**). -/
theorem rainbowWalkI_recorded (counts rs : List Nat) (h rem : Nat) :
    (∀ w, (rainbowWalkI counts rs h rem).1 = .ok w → h ≤ w ∧ ∀ x ∈ (rainbowWalkI counts rs h rem).2, x ≤ w)
    ∧ (rem ≤ 7 → ∀ x ∈ (rainbowWalkI counts rs h rem).2, x ≤ h + walkBound.getD rem 0) := by
  -- `h + v` is recorded whether the walk then traps, returns or goes on, and is within the bound
  have head {len r rem v : Nat} (h : Nat) (hv : dpRef len r rem = .ok v) (hrem : rem ≤ 7) :
      h + v ≤ h + walkBound.getD rem 0 := Nat.add_le_add_left (dpRef_le_walkBound hrem hv).1 h
  -- cases in the order of the definition: 1 walk over; 2 counter out of range; 3 count 0; 4 `len > rem`; 5 returns;
  -- 6 goes on; 7 `dp_ref` out of range
  fun_induction rainbowWalkI counts rs h rem with
  | case1 => exact ⟨fun w e => by cases e; exact ⟨Nat.le_refl _, nofun⟩, fun _ => nofun⟩
  | case2 | case7 => exact ⟨nofun, fun _ => nofun⟩
  | case3 _ _ _ _ _ ih => exact ih
  | case4 _ _ h _ _ _ _ _ hv => exact ⟨nofun, fun hrem => List.forall_mem_singleton.mpr (head h hv hrem)⟩
  | case5 _ _ h _ _ _ _ v hv =>
    refine ⟨fun w e => ?_, fun hrem => List.forall_mem_singleton.mpr (head h hv hrem)⟩
    cases e
    exact ⟨Nat.le_add_right h v, List.forall_mem_singleton.mpr (Nat.le_refl _)⟩
  | case6 _ _ h rem len _ _ v hv _ _ ih =>
    refine ⟨fun w e => ?_, fun hrem => List.forall_mem_cons.mpr ⟨head h hv hrem, fun x hx => ?_⟩⟩
    · obtain ⟨hw, hall⟩ := ih.1 w e
      exact ⟨by omega, List.forall_mem_cons.mpr ⟨hw, hall⟩⟩
    · have := (dpRef_le_walkBound hrem hv).2 (by omega)
      have := ih.2 (by omega) x hx
      omega

/-- `hash_for_rainbow` on any seven cards (valid or not, distinct or not): every value of the `u16`
accumulator is at most 49296 -/
theorem rainbow_accs_u16 (cs : List Card) (hlen : cs.length ≤ 7) (counts : List Nat) :
    ∀ x ∈ (rainbowWalkI counts Gen.rainbowWalk 0 (cs.map (·.rank)).length).2, x ≤ 49296 ∧ x < 65536 := by
  intro x hx
  have := (rainbowWalkI_recorded counts Gen.rainbowWalk 0 _).2 (by simpa using hlen) x hx
  have : walkBound.getD (cs.map (·.rank)).length 0 ≤ 49296 :=
    getD_ind (P := (· ≤ 49296)) (by decide) (by decide) _
  omega

/-- **the bound that makes the `Nat` accumulator faithful (rainbow branch).**  Whenever cards are
evaluated through the rainbow branch, the walk's accumulator takes only values that are at most the
final hash, and the final hash indexes `AS_RAINBOW` (49205 slots) successfully — so every value is
`< 49205 < 65536`. -/
theorem rainbow_no_overflow (cs : List Card) (i : Nat) (hff : findFlushSuit cs = .ok none)
    (e : eval7 cs = .ok i) :
    ∃ counts hh, rankCounts (List.replicate 13 0) (cs.map (·.rank)) = .ok counts
      ∧ rainbowWalkLoop counts Gen.rainbowWalk 0 (cs.map (·.rank)).length = .ok hh
      ∧ (rainbowWalkI counts Gen.rainbowWalk 0 (cs.map (·.rank)).length).1 = .ok hh
      ∧ hashRainbow cs = .ok hh ∧ asRainbow hh = .ok i ∧ hh < 49205
      ∧ ∀ x ∈ (rainbowWalkI counts Gen.rainbowWalk 0 (cs.map (·.rank)).length).2,
          x ≤ hh ∧ x < 49205 ∧ x < 65536 := by
  simp only [eval7, hff] at e
  split at e
  · rename_i hh hr
    have hw := hr
    simp only [hashRainbow, hashRanks] at hw
    split at hw
    · rename_i counts hc
      have h1 := rainbowWalkI_fst counts Gen.rainbowWalk 0 (cs.map (·.rank)).length
      rw [hw] at h1
      obtain ⟨h2, -⟩ := rainbowWalkI_recorded counts Gen.rainbowWalk 0 (cs.map (·.rank)).length
      have hlt := asRainbow_ok_lt e
      exact ⟨counts, hh, hc, hw, h1, hr, e, hlt, fun x hx => by have := (h2 hh h1).2 x hx; omega⟩
    · exact nomatch hw
  · exact nomatch e

/-- `hashFlush` instrumented: the result and the value of `hash` after every executed `hash += …` -/
def hashFlushI (suit : Nat) : List Card → Nat → Nat × List Nat
  | [], h => (h, [])
  | c :: cs, h =>
    if c.suit = suit then
      ((hashFlushI suit cs (h + Gen.flushWeightTbl.getD c.rank 0)).1,
       (h + Gen.flushWeightTbl.getD c.rank 0) :: (hashFlushI suit cs (h + Gen.flushWeightTbl.getD c.rank 0)).2)
    else hashFlushI suit cs h

theorem hashFlushI_fst (suit : Nat) (cs : List Card) (h : Nat) :
    (hashFlushI suit cs h).1
      = cs.foldl (fun h c => if c.suit = suit then h + Gen.flushWeightTbl.getD c.rank 0 else h) h := by
  fun_induction hashFlushI suit cs h <;> simp only [List.foldl_cons, List.foldl_nil, ↓reduceIte, *]

/-- the accumulator never decreases and gains at most 4096 per card (the weight of the ace, the greatest in
`hash_for_flush`); every recorded value is at most the final one -/
theorem hashFlushI_recorded (suit : Nat) (cs : List Card) (h : Nat) :
    h ≤ (hashFlushI suit cs h).1 ∧ (hashFlushI suit cs h).1 ≤ h + 4096 * cs.length
    ∧ ∀ x ∈ (hashFlushI suit cs h).2, x ≤ (hashFlushI suit cs h).1 := by
  fun_induction hashFlushI suit cs h with
  | case1 => exact ⟨Nat.le_refl _, Nat.le_refl _, nofun⟩
  | case2 c cs h _ ih =>
    have : Gen.flushWeightTbl.getD c.rank 0 ≤ 4096 :=
      getD_ind (P := (· ≤ 4096)) (by decide) (by decide) _
    rw [List.length_cons]
    exact ⟨by omega, by omega, List.forall_mem_cons.mpr ⟨ih.1, ih.2.2⟩⟩
  | case3 c cs h _ ih =>
    rw [List.length_cons]
    exact ⟨ih.1, by omega, ih.2.2⟩

/-- `hash_for_flush` on any seven cards and any suit: every value of the `u16` accumulator is at most
`7 · 4096` -/
theorem flush_accs_u16 (cs : List Card) (hlen : cs.length ≤ 7) (suit : Nat) :
    ∀ x ∈ (hashFlushI suit cs 0).2, x ≤ 28672 ∧ x < 65536 := by
  intro x hx
  obtain ⟨-, h2, h3⟩ := hashFlushI_recorded suit cs 0
  have := h3 x hx
  omega

/-- **flush branch.**  Whenever cards are evaluated through the flush branch, the accumulator of
`hash_for_flush` takes only values that are at most the final hash, and the final hash indexes
`AS_FLUSH` (8192 slots) successfully — so every value is `≤ 8191`. -/
theorem flush_no_overflow (cs : List Card) (i s : Nat) (hff : findFlushSuit cs = .ok (some s))
    (e : eval7 cs = .ok i) :
    asFlush (hashFlush cs s) = .ok i ∧ hashFlush cs s ≤ 8191
    ∧ (hashFlushI s cs 0).1 = hashFlush cs s
    ∧ ∀ x ∈ (hashFlushI s cs 0).2, x ≤ hashFlush cs s ∧ x ≤ 8191 ∧ x < 65536 := by
  simp only [eval7, hff] at e
  have hlt := asFlush_ok_lt e
  have h0 : (hashFlushI s cs 0).1 = hashFlush cs s := hashFlushI_fst s cs 0
  exact ⟨e, by omega, h0, fun x hx => by have := (hashFlushI_recorded s cs 0).2.2 x hx; omega⟩

/-- **seven distinct cards.**  The evaluation of seven distinct valid cards always succeeds (`C01_eval`),
through one of the two branches; in either, no value of the `u16` accumulator exceeds the hash that
indexes the table. -/
theorem seven_no_overflow (cs : List Card) (h : Seven cs) :
    (∃ s, findFlushSuit cs = .ok (some s) ∧ hashFlush cs s ≤ 8191
        ∧ ∀ x ∈ (hashFlushI s cs 0).2, x ≤ 8191)
    ∨ (findFlushSuit cs = .ok none ∧ ∃ counts hh,
        rankCounts (List.replicate 13 0) (cs.map (·.rank)) = .ok counts
        ∧ hashRainbow cs = .ok hh ∧ hh < 49205
        ∧ ∀ x ∈ (rainbowWalkI counts Gen.rainbowWalk 0 (cs.map (·.rank)).length).2, x < 49205) := by
  have e := h.eval
  rcases findFlushSuit_spec cs h.valid with ⟨s, _, _, hff⟩ | ⟨_, hff⟩
  · left
    obtain ⟨_, h1, _, h2⟩ := flush_no_overflow cs _ s hff e
    exact ⟨s, hff, h1, fun x hx => (h2 x hx).2.1⟩
  · right
    obtain ⟨counts, hh, hc, _, _, hr, _, hlt, hall⟩ := rainbow_no_overflow cs _ hff e
    exact ⟨hff, counts, hh, hc, hr, hlt, fun x hx => (hall x hx).2.1⟩

/-- non-vacuity: the three kings go through the rainbow branch; the accumulator takes the values
recorded below, the last of which is the hash, and the slot holds class 1679 -/
example : findFlushSuit wTrips = .ok none
    ∧ rankCounts (List.replicate 13 0) (wTrips.map (·.rank)) = .ok [1, 3, 0, 0, 0, 1, 0, 1, 0, 0, 0, 0, 1]
    ∧ rainbowWalkI [1, 3, 0, 0, 0, 1, 0, 1, 0, 0, 0, 0, 1] Gen.rainbowWalk 0 7
        = (.ok 31887, [30888, 31763, 31884, 31887, 31887]) := by decide +kernel

example := rainbow_no_overflow wTrips 1679 (by decide +kernel) wTrips_eval

/-- non-vacuity: the flush goes through the flush branch (spades A Q J 9 2) -/
example : findFlushSuit wFlush = .ok (some 0)
    ∧ hashFlushI 0 wFlush 0 = (5761, [1024, 1536, 5632, 5760, 5761]) := by decide +kernel

example := flush_no_overflow wFlush 501 0 (by decide +kernel) wFlush_eval

/-- the unconditional bounds are not vacuous either: seven deuces (not a hand of distinct cards) make
`dp_ref` panic in model and crate alike, after no addition at all; four deuces and three treys add
48841 and then 363, both below 65536 -/
example : rainbowWalkI [0, 0, 0, 0, 0, 0, 0, 0, 0, 0, 0, 0, 7] Gen.rainbowWalk 0 7 = (.panic, [])
    ∧ rainbowWalkI [0, 0, 0, 0, 0, 0, 0, 0, 0, 0, 0, 3, 4] Gen.rainbowWalk 0 7 = (.ok 49204, [48841, 49204]) := by
  decide +kernel

end C01
end EspadaVerif
