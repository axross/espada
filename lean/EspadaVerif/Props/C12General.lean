/-
C12 — `Props/C12.lean` proves the rank-pair / leftover split for ANY weight domain on which `==` is
equality, with the hypotheses on the range's CONTENTS (what `lookup` answers): `C12_*_contents`.  Here:

* `lookup_contents`, `mem_contents_iff`: `HandRange.contents` answers every lookup as the insert history does
  (the lemmas of `Lemmas/RangeAux` under the names of this property);
* `C12_*_general`, the forms with the hypothesis on the insert history (overwritten inserts included) but `heq` in
  place of the whole bundle `WTextOk` (e.g. "any f32 that is not NaN and not -0.0": a range with weight 1.5 built through
  `FromIterator` is covered);
* a float-like weight type on which the history hypothesis fails and the contents hypothesis holds.
-/
import EspadaVerif.Props.C12
import EspadaVerif.Lemmas.RangeAux
import EspadaVerif.Lemmas.Decide

namespace EspadaVerif.C12
open TextDefs RankPairFacts

variable {W : Type}

theorem lookup_contents (r : HandRange W) : ∀ c, HandRange.lookup (HandRange.contents r) c = r.lookup c :=
  RangeAux.lookup_contents r

theorem mem_contents_iff (r : HandRange W) (c : Combo) (w : W) :
    (c, w) ∈ HandRange.contents r ↔ r.lookup c = some w :=
  RangeAux.mem_contents_iff r c w

/-- **C12 (rank pairs), any domain.** `C12_report` with `heq` as the only assumption about the weights. -/
theorem C12_report_general (wt : WText W) (inDom : W → Prop)
    (heq : ∀ a b, inDom a → inDom b → (wt.eq a b = true ↔ a = b)) (r : HandRange W)
    (hr : ∀ e ∈ r, inDom e.2) :
    ∃ l, rankPairs wt r = .ok l ∧
      ∀ rp w, rpLookup l rp = some w ↔ (RankPair.canonical rp ∧ ∀ c ∈ rp.combos, r.lookup c = some w) :=
  C12_report_contents wt inDom heq r (r.contents_hyp_of_history (P := fun _ w => inDom w) hr)

set_option linter.unusedVariables false in
/-- **C12 (leftovers), any domain.** (The hypotheses are not used: see `C12_orphans_contents`.) -/
theorem C12_orphans_general (wt : WText W) (inDom : W → Prop)
    (heq : ∀ a b, inDom a → inDom b → (wt.eq a b = true ↔ a = b)) (r : HandRange W)
    (hr : ∀ e ∈ r, inDom e.2) :
    ∃ l o, rankPairs wt r = .ok l ∧ orphans wt r = .ok o ∧
      ∀ c, ((∃ rp w, rpLookup l rp = some w ∧ c ∈ rp.combos) → o.lookup c = none)
         ∧ ((∀ rp w, rpLookup l rp = some w → c ∉ rp.combos) → o.lookup c = r.lookup c) :=
  C12_orphans_contents wt r

/-- **C12 (cover), any domain.** `C12_cover` with `heq` as the only assumption about the weights. -/
theorem C12_cover_general (wt : WText W) (inDom : W → Prop)
    (heq : ∀ a b, inDom a → inDom b → (wt.eq a b = true ↔ a = b)) (r : HandRange W)
    (hr : ∀ e ∈ r, inDom e.2) :
    ∃ l o, rankPairs wt r = .ok l ∧ orphans wt r = .ok o ∧
      ∀ c w, r.lookup c = some w →
        (o.lookup c = some w ∧ ∀ rp w', rpLookup l rp = some w' → c ∉ rp.combos)
        ∨ (o.lookup c = none ∧ ∃ rp, rpLookup l rp = some w ∧ c ∈ rp.combos
             ∧ ∀ rp' w', rpLookup l rp' = some w' → c ∈ rp'.combos → rp' = rp) :=
  C12_cover_contents wt inDom heq r (r.contents_hyp_of_history (P := fun _ w => inDom w) hr)

/-- `C12_disjoint` again: it has no hypothesis about weights -/
theorem C12_disjoint_general (rp rp' : RankPair) (h : RankPair.canonical rp) (h' : RankPair.canonical rp') (c : Combo)
    (hc : c ∈ rp.combos) (hc' : c ∈ rp'.combos) : rp = rp' :=
  C12_disjoint rp rp' h h' c hc hc'

/-! ### a float-like weight type: a NaN, weights above 1, and an overwritten insert -/

/-- weights in tenths, `none` = NaN -/
abbrev FW := Option Nat

/-- `==` of floats: NaN is not equal to itself -/
def fwText : WText FW :=
  { one := some 10
    eq := fun a b => match a, b with
      | some x, some y => x == y
      | _, _ => false
    showW := fun _ => [], parseW := fun _ => none }

/-- "not NaN" -/
def fwDom (w : FW) : Prop := w ≠ none

instance : DecidablePred fwDom := fun w => inferInstanceAs (Decidable (w ≠ none))

theorem fw_heq : ∀ a b, fwDom a → fwDom b → (fwText.eq a b = true ↔ a = b) := by
  intro a b ha hb
  cases a with
  | none => exact absurd rfl ha
  | some x =>
    cases b with
    | none => exact absurd rfl hb
    | some y => simp [fwText]

/-- `==` is NOT reflexive on the whole type, so `heq` for `inDom := fun _ => True` would be false -/
example : fwText.eq none none = false := rfl

/-- the four suited ace-kings at weight 1.5 and 7♦7♣ at 0.3; A♠K♠ was first inserted with a NaN and then overwritten -/
def fwRange : HandRange FW :=
  [(⟨⟨0, 0⟩, ⟨1, 0⟩⟩, some 15), (⟨⟨7, 2⟩, ⟨7, 3⟩⟩, some 3), (⟨⟨0, 3⟩, ⟨1, 3⟩⟩, some 15), (⟨⟨0, 2⟩, ⟨1, 2⟩⟩, some 15),
   (⟨⟨0, 1⟩, ⟨1, 1⟩⟩, some 15), (⟨⟨0, 0⟩, ⟨1, 0⟩⟩, none)]

/-- the history hypothesis of `C12_report` / `C12_report_general` FAILS on this range … -/
example : ¬ ∀ e ∈ fwRange, fwDom e.2 := fun h => h (⟨⟨0, 0⟩, ⟨1, 0⟩⟩, none) (by decide) rfl

/-- … the contents hypothesis holds -/
theorem fwRange_dom : ∀ c w, fwRange.lookup c = some w → fwDom w :=
  fwRange.contents_hyp_of_current (by decide)

/-- `AKs` is reported with weight 1.5 (outside [0,1], not in the scope of `WTextOk`), the pocket sevens are not
reported (one combo of six), and 7♦7♣ is a leftover with its weight -/
example : ∃ l o, rankPairs fwText fwRange = .ok l ∧ orphans fwText fwRange = .ok o
    ∧ rpLookup l (.suited 0 1) = some (some 15) ∧ rpLookup l (.pocket 7) = none
    ∧ o.lookup ⟨⟨7, 2⟩, ⟨7, 3⟩⟩ = some (some 3) ∧ o.lookup ⟨⟨0, 0⟩, ⟨1, 0⟩⟩ = none := by
  have hrep := report_rpList fwText fwDom fw_heq fwRange fwRange_dom
  have hAK : rpLookup (rpList fwText fwRange) (.suited 0 1) = some (some 15) := (hrep _ _).mpr (by decide)
  have h77 : rpLookup (rpList fwText fwRange) (.pocket 7) = none :=
    Option.eq_none_iff_forall_ne_some.mpr fun w h =>
      nomatch (show fwRange.lookup ⟨⟨7, 0⟩, ⟨7, 1⟩⟩ = none by decide).symm.trans (((hrep _ _).mp h).2 _ (by decide))
  refine ⟨_, _, rankPairs_eq _ _, orphans_eq _ _, hAK, h77, ?_, (lookup_orphList_cases _ _ _).1 ⟨_, _, hAK, by decide⟩⟩
  -- a reported rank pair with 7♦7♣ among its combos would be `classify` of it, the pocket sevens
  refine ((lookup_orphList_cases _ _ _).2 fun rp w h1 h2 => ?_).trans (by decide)
  cases classify_of_mem ((hrep rp w).mp h1).1 h2
  exact nomatch h77.symm.trans h1

end EspadaVerif.C12
