/-
C02 (specification side) — `Spec.deals` really is "every legal combination exactly once and nothing else".

`C02_refines` shows that the drain of the model iterator is the list `(Spec.deals …).map showdownOfDeal`.
This file states what that list IS without the comprehension: the deck is the 49 unseen cards in code order,
every unordered pair of them is the turn/river of exactly one position, a deal is a member iff it is a position,
one entry per player and `5 + 2n` distinct cards, no deal occurs twice, and different deals give different
showdowns.  `C02_exactly_once` carries this over to what the ITERATOR yields.
Spec-level statements take spec-level hypotheses (`WfSpecFlop`, entry lists without duplicate); the `_wf`
corollaries derive them from `WfInput` (whose field `nodup` is used here).
-/
import EspadaVerif.Props.C02
import EspadaVerif.Props.Witness.Common
import EspadaVerif.Lemmas.Decide

namespace EspadaVerif.C02
open Spec EspadaVerif.IterLemmas

variable {W : Type}

def entryKey (e : Nat × Nat × W) : Nat × Nat := (e.1, e.2.1)

/-- no player's list names the same combo twice (`HandRange` is a map keyed by combos) -/
def KeysNodup (E : List (List (Nat × Nat × W))) : Prop := ∀ es ∈ E, (es.map entryKey).Nodup

theorem keysNodup_of_wf {flop : List Card} {ranges : List (List (Combo × W))} (h : WfInput flop ranges) :
    KeysNodup (specEntries ranges) := by
  intro es hes
  obtain ⟨rs, hrs, rfl⟩ := List.mem_map.mp hes
  -- the keys of the entries are the codes of the combos, which determine a real combo; the last step holds
  -- because `entryKey ∘ toSpec` and `comboCodes ∘ (·.1)` unfold to the same function
  have := Lemmas.nodup_map_on (f := TextDefs.comboCodes) (fun a ha b hb e => by
    obtain ⟨ea, hea, rfl⟩ := List.mem_map.mp ha
    obtain ⟨eb, heb, rfl⟩ := List.mem_map.mp hb
    have ⟨a₁, a₂, _⟩ := h.combos rs hrs ea hea
    have ⟨b₁, b₂, _⟩ := h.combos rs hrs eb heb
    exact Combo.eq_of_codes a₁ a₂ b₁ b₂ e) (h.nodup rs hrs)
  rwa [List.map_map] at this ⊢

/-- **the deck.** 49 cards; none twice; exactly the valid card codes not on the flop; in code order, i.e. ace to
deuce and, within a rank, spade, heart, diamond, club. -/
theorem deck49_spec (F : List Nat) (hF : WfSpecFlop F) :
    (deck49 F).length = 49 ∧ (deck49 F).Nodup ∧ (∀ n, n ∈ deck49 F ↔ n < 52 ∧ n ∉ F)
      ∧ (deck49 F).Pairwise (· < ·) :=
  ⟨hF.deck49_length, deck49_nodup F, mem_deck49 F, deck49_sorted F⟩

theorem deck49_spec_wf (flop : List Card) (ranges : List (List (Combo × W))) (h : WfInput flop ranges) :
    (deck49 (flop.map Card.code)).length = 49 ∧ (deck49 (flop.map Card.code)).Nodup
      ∧ (∀ n, n ∈ deck49 (flop.map Card.code) ↔ n < 52 ∧ n ∉ flop.map Card.code)
      ∧ (deck49 (flop.map Card.code)).Pairwise (· < ·) :=
  deck49_spec _ (h.wfFlop.spec)

/-- the code order IS "rank first (0 = ace … 12 = deuce), then suit (0 = s, 1 = h, 2 = d, 3 = c)" -/
theorem code_order (a b : Nat) : a < b ↔ a / 4 < b / 4 ∨ (a / 4 = b / 4 ∧ a % 4 < b % 4) := by omega

/-- the cards at position `p` are `x` and `y`, in either order -/
def pairAt (D : List Nat) (p : Nat × Nat) (x y : Nat) : Prop :=
  (D[p.1]? = some x ∧ D[p.2]? = some y) ∨ (D[p.1]? = some y ∧ D[p.2]? = some x)

theorem pairAt_iff {D : List Nat} (hD : D.Nodup) {i j x y : Nat} (hi : D[i]? = some x) (hj : D[j]? = some y)
    (p : Nat × Nat) : pairAt D p x y ↔ (p.1 = i ∧ p.2 = j) ∨ (p.1 = j ∧ p.2 = i) := by
  simp only [pairAt, Lemmas.nodup_index_iff hD hi, Lemmas.nodup_index_iff hD hj]

/-- **unordered pairs.** Every unordered pair of different unseen cards is the turn/river of exactly one
position of `allPositions` (existence and uniqueness). -/
theorem unordered_once (F : List Nat) (hF : WfSpecFlop F) (x y : Nat) (hx : x ∈ deck49 F) (hy : y ∈ deck49 F)
    (hxy : x ≠ y) :
    ∃ p, p ∈ allPositions ∧ pairAt (deck49 F) p x y
      ∧ ∀ q, q ∈ allPositions → pairAt (deck49 F) q x y → q = p := by
  obtain ⟨i, hi, rfl⟩ := List.getElem_of_mem hx
  obtain ⟨j, hj, rfl⟩ := List.getElem_of_mem hy
  have hij : i ≠ j := fun e => hxy (by subst e; rfl)
  have hlen := hF.deck49_length
  -- of the two index pairs `(i, j)`, `(j, i)` exactly one is a position: the increasing one
  simp only [mem_allPositions,
    pairAt_iff (deck49_nodup F) (List.getElem?_eq_getElem hi) (List.getElem?_eq_getElem hj)]
  exact ⟨(min i j, max i j), by simp only; omega, by simp only; omega,
    fun q hq h => Prod.ext (by simp only; omega) (by simp only; omega)⟩

/-- "one entry per player, taken from that player's list" -/
def ChoiceFrom (E : List (List (Nat × Nat × W))) (ch : List (Nat × Nat × W)) : Prop :=
  ch.length = E.length ∧ ∀ i (h₁ : i < ch.length) (h₂ : i < E.length), ch[i] ∈ E[i]

theorem choiceFrom_iff (E : List (List (Nat × Nat × W))) (ch : List (Nat × Nat × W)) :
    ChoiceFrom E ch ↔ ch ∈ product E := (mem_product_iff E ch).symm

/-- **membership, any scope.** A deal is in the enumeration of the scope `[a, b)` iff its turn and river are the
deck cards at a position `a ≤ (t, r) < b` (turn index < river index < 49), it has one entry per player taken
from that player's list, and all `5 + 2n` cards are distinct. -/
theorem mem_deals_iff (F : List Nat) (E : List (List (Nat × Nat × W))) (a b : Nat × Nat) (hF : WfSpecFlop F)
    (d : Deal W) :
    d ∈ deals F E a b ↔
      (∃ t r, (t < r ∧ r < 49) ∧ posLe a (t, r) = true ∧ posLt (t, r) b = true
          ∧ (deck49 F)[t]? = some d.turn ∧ (deck49 F)[r]? = some d.river)
      ∧ ChoiceFrom E d.choice ∧ Deal.legal F d = true := by
  rw [deals_eq_blocks, List.mem_flatMap]
  constructor
  · rintro ⟨p, hp, hd⟩
    obtain ⟨hpos, hle, hlt⟩ := (mem_positionsBetween_iff a b p).mp hp
    obtain ⟨ht, hr, hch, hleg⟩ := mem_dealsAt.mp hd
    exact ⟨⟨p.1, p.2, hpos, hle, hlt, ht ▸ hF.getElem?_deck49 (by omega), hr ▸ hF.getElem?_deck49 hpos.2⟩,
      (choiceFrom_iff E _).mpr hch, hleg⟩
  · rintro ⟨⟨t, r, hpos, hle, hlt, ht, hr⟩, hch, hleg⟩
    exact ⟨(t, r), (mem_positionsBetween_iff a b (t, r)).mpr ⟨hpos, hle, hlt⟩,
      mem_dealsAt.mpr ⟨Option.some.inj (ht.symm.trans (hF.getElem?_deck49 (by omega))),
        Option.some.inj (hr.symm.trans (hF.getElem?_deck49 hpos.2)), (choiceFrom_iff E _).mp hch, hleg⟩⟩

/-- **membership, full enumeration** (the unscoped evaluator): an unordered turn/river pair from the 49 unseen
cards — presented as the position `t < r < 49` of the deck —, one entry per player taken from that player's
list, all `5 + 2n` cards distinct. -/
theorem deals_mem_iff (F : List Nat) (E : List (List (Nat × Nat × W))) (hF : WfSpecFlop F) (d : Deal W) :
    d ∈ deals F E (0, 1) (48, 49) ↔
      (∃ t r, t < r ∧ r < 49 ∧ (deck49 F)[t]? = some d.turn ∧ (deck49 F)[r]? = some d.river)
      ∧ ChoiceFrom E d.choice ∧ Deal.legal F d = true := by
  rw [mem_deals_iff F E _ _ hF]
  -- every position lies in the full scope
  refine and_congr_left' (exists_congr fun t => exists_congr fun r => ?_)
  rw [posLe_iff, posLt_iff, and_assoc]
  exact and_congr_right fun h1 => and_congr_right fun h2 =>
    ⟨fun h => h.2.2, fun h => ⟨by simp only; omega, by simp only; omega, h⟩⟩

/-- in every deal the turn is the card that comes first in deck order: the pair is unordered, each pair is
presented once, smaller code first (together with `unordered_once`) -/
theorem deals_turn_lt_river (F : List Nat) (E : List (List (Nat × Nat × W))) (a b : Nat × Nat)
    (hF : WfSpecFlop F) (d : Deal W) (hd : d ∈ deals F E a b) :
    d.turn < d.river ∧ d.turn ∈ deck49 F ∧ d.river ∈ deck49 F := by
  obtain ⟨⟨t, r, hpos, _, _, ht, hr⟩, _⟩ := (mem_deals_iff F E a b hF d).mp hd
  obtain ⟨h1, e1⟩ := List.getElem?_eq_some_iff.mp ht
  obtain ⟨h2, e2⟩ := List.getElem?_eq_some_iff.mp hr
  exact ⟨e1 ▸ e2 ▸ List.pairwise_iff_getElem.mp (deck49_sorted F) t r h1 h2 hpos.1,
    List.mem_of_getElem? ht, List.mem_of_getElem? hr⟩

/-- **no deal twice.** In every scope the enumeration has no duplicate, provided no player's list has a
duplicate entry. -/
theorem deals_nodup (F : List Nat) (E : List (List (Nat × Nat × W))) (a b : Nat × Nat) (hF : WfSpecFlop F)
    (hE : ∀ es ∈ E, es.Nodup) : (deals F E a b).Nodup := by
  rw [deals_eq_blocks]
  -- within a position the choices differ; the turn / river cards give back the position
  refine Lemmas.nodup_flatMap (List.filter_sublist.nodup allPositions_nodup) (fun p _ => ?_) ?_
  · exact List.Pairwise.filter _
      (Lemmas.nodup_map_on (fun _ _ _ _ e => congrArg Deal.choice e) (product_nodup E hE))
  · intro p hp q hq d h₁ h₂
    obtain ⟨hp1, hp2⟩ := mem_positionsBetween hp
    obtain ⟨hq1, hq2⟩ := mem_positionsBetween hq
    obtain ⟨t₁, r₁, _⟩ := mem_dealsAt.mp h₁
    obtain ⟨t₂, r₂, _⟩ := mem_dealsAt.mp h₂
    exact Prod.ext (hF.deck49_getD_inj (by omega) (by omega) (t₁.symm.trans t₂))
      (hF.deck49_getD_inj hp2 hq2 (r₁.symm.trans r₂))

theorem deals_nodup_wf (flop : List Card) (ranges : List (List (Combo × W))) (a b : Nat × Nat)
    (h : WfInput flop ranges) : (deals (flop.map Card.code) (specEntries ranges) a b).Nodup :=
  deals_nodup _ _ a b h.wfFlop.spec fun es hes => Lemmas.nodup_of_map entryKey (keysNodup_of_wf h es hes)

theorem Deal.ext : ∀ {d d' : Deal W}, d.turn = d'.turn → d.river = d'.river → d.choice = d'.choice → d = d'
  | ⟨_, _, _⟩, ⟨_, _, _⟩, rfl, rfl, rfl => rfl

/-- when no list names a combo twice, the combos of a choice determine the choice (weights included) -/
theorem choice_eq_of_keys {E : List (List (Nat × Nat × W))} (hk : KeysNodup E) {ch ch' : List (Nat × Nat × W)}
    (h : ChoiceFrom E ch) (h' : ChoiceFrom E ch') (hkeys : ch.map entryKey = ch'.map entryKey) : ch = ch' := by
  apply List.ext_getElem (h.1.trans h'.1.symm)
  intro i h₁ h₂
  have hE : i < E.length := h.1 ▸ h₁
  have hkey := List.getElem_of_eq hkeys (by simpa using h₁)
  simp only [List.getElem_map] at hkey
  exact Lemmas.eq_of_nodup_map entryKey (hk E[i] (List.getElem_mem hE)) (h.2 i h₁ hE) (h'.2 i h₂ hE) hkey

/-- **different combinations give different showdowns**: two deals of the enumeration (of any two scopes)
that stand for the same showdown are the same deal.  (The board gives turn and river, the players' hole
cards give the combos, and a combo occurs once in a player's list, which gives the weights.) -/
theorem sdOf_inj (ops : WOps W) (flop : List Card) (ranges : List (List (Combo × W)))
    (a b a' b' : Nat × Nat) (h : WfInput flop ranges) {d d' : Deal W}
    (hd : d ∈ deals (flop.map Card.code) (specEntries ranges) a b)
    (hd' : d' ∈ deals (flop.map Card.code) (specEntries ranges) a' b')
    (e : sdOf ops flop d = sdOf ops flop d') : d = d' := by
  -- `Card.code` undoes `Card.ofCode`: the cards of the showdown give back the codes of the deal
  have hb := congrArg (fun sd => sd.board.map Card.code) e
  have hp := congrArg (fun sd => (sd.players.map (·.hole)).map TextDefs.comboCodes) e
  simp only [sdOf_hole] at hp
  simp only [sdOf, List.map_append, List.map_cons, List.map_nil, List.append_cancel_left_eq, List.cons.injEq,
    and_true, List.map_map, Function.comp_def, TextDefs.comboCodes, Card.code_ofCode] at hb hp
  have hF := h.wfFlop.spec
  exact Deal.ext hb.1 hb.2 (choice_eq_of_keys (keysNodup_of_wf h) ((mem_deals_iff _ _ a b hF d).mp hd).2.1
    ((mem_deals_iff _ _ a' b' hF d').mp hd').2.1 hp)

theorem showdownOfDeal_inj (ops : WOps W) (flop : List Card) (ranges : List (List (Combo × W)))
    (a b a' b' : Nat × Nat) (h : WfInput flop ranges) {d d' : Deal W}
    (hd : d ∈ deals (flop.map Card.code) (specEntries ranges) a b)
    (hd' : d' ∈ deals (flop.map Card.code) (specEntries ranges) a' b')
    (e : showdownOfDeal ops flop d = showdownOfDeal ops flop d') : d = d' := by
  rw [showdownOfDeal_mem ops h.wfFlop h.rv hd, showdownOfDeal_mem ops h.wfFlop h.rv hd'] at e
  exact sdOf_inj ops flop ranges a b a' b' h hd hd' (Option.some.inj (Res.ok.inj e))

/-- **C02, any scope, about the iterator.** The drain of the evaluator scoped to `[a, b)` has no duplicate and
holds exactly the showdowns of the deals of the scope (`mem_deals_iff`: the deck cards at a position
`a ≤ (t, r) < b`, one entry per player from that player's range, `5 + 2n` distinct cards), one for each
(`sdOf_inj`). -/
theorem C02_exactly_once_scoped (ops : WOps W) (flop : List Card) (ranges : List (List (Combo × W)))
    (a b : Nat × Nat) (h : WfInput flop ranges) (hs : ValidScope a b) :
    ∃ sds, C04.IsDrain ops (mkEvaluator flop ranges a b) sds ∧ sds.Nodup
      ∧ sds.length = (deals (flop.map Card.code) (specEntries ranges) a b).length
      ∧ ∀ sd, sd ∈ sds ↔ ∃ d ∈ deals (flop.map Card.code) (specEntries ranges) a b,
          showdownOfDeal ops flop d = .ok (some sd) := by
  refine ⟨_, drainOf_eq_map ops a b h.wfFlop h.rv ▸ scope_drain ops h.wfFlop h.rv hs, ?_,
    List.length_map _, fun sd => ?_⟩
  · exact Lemmas.nodup_map_on (fun d hd d' hd' => sdOf_inj ops flop ranges a b a b h hd hd')
      (deals_nodup_wf flop ranges a b h)
  · rw [List.mem_map]
    exact exists_congr fun d => and_congr_right fun hd => by
      rw [showdownOfDeal_mem ops h.wfFlop h.rv hd, Res.ok.injEq, Option.some.injEq]

/-- **C02, about the iterator** (unscoped evaluator `FlopExhaustiveEvaluator::new(flop, ranges)`): the drained
list has exactly one showdown for every combination of an unordered turn/river pair from the 49 unseen cards
(the deck cards at indices `t < r < 49`; by `unordered_once` every unordered pair is at exactly one such index
pair) and one entry per player taken from that player's range such that all `5 + 2n` cards are distinct, and
no other showdown: no duplicate; membership characterised; different combinations give different showdowns. -/
theorem C02_exactly_once (ops : WOps W) (flop : List Card) (ranges : List (List (Combo × W)))
    (h : WfInput flop ranges) :
    ∃ s₀ : IterState W, (Evaluator.new (flop.map some ++ [none, none]) ranges).intoIter = .ok s₀ ∧
    ∃ (sds : List (Showdown W)) (sEnd : IterState W),
      (∀ limit, sds.length < limit → drainFuel ops limit s₀ [] = .ok (sds, sEnd))
      ∧ next ops sEnd = .ok (none, sEnd)
      ∧ sds.Nodup
      ∧ (∀ sd, sd ∈ sds ↔ ∃ d : Deal W,
          ((∃ t r, t < r ∧ r < 49 ∧ (deck49 (flop.map Card.code))[t]? = some d.turn
              ∧ (deck49 (flop.map Card.code))[r]? = some d.river)
            ∧ ChoiceFrom (specEntries ranges) d.choice ∧ Deal.legal (flop.map Card.code) d = true)
          ∧ showdownOfDeal ops flop d = .ok (some sd))
      ∧ (∀ d d' : Deal W, d ∈ deals (flop.map Card.code) (specEntries ranges) (0, 1) (48, 49) →
          d' ∈ deals (flop.map Card.code) (specEntries ranges) (0, 1) (48, 49) →
          showdownOfDeal ops flop d = showdownOfDeal ops flop d' → d = d') := by
  obtain ⟨sds, ⟨s₀, sEnd, h0, hdrain, hend⟩, hnd, _, hmem⟩ :=
    C02_exactly_once_scoped ops flop ranges (0, 1) (48, 49) h ValidScope.full
  -- `Evaluator.new (flop.map some ++ [none, none]) ranges` is `mkEvaluator flop ranges (0, 1) (48, 49)` by `rfl`,
  -- so `h0` has the type asked for
  refine ⟨s₀, h0, sds, sEnd, hdrain, hend, hnd, fun sd => ?_,
    fun d d' hd hd' => showdownOfDeal_inj ops flop ranges _ _ _ _ h hd hd'⟩
  rw [hmem sd]
  exact exists_congr fun d => and_congr_left' (deals_mem_iff _ _ h.wfFlop.spec d)

/-! ### instances at concrete data

Flop A♠ K♦ 7♣ (codes 0, 6, 31); player 1: Q♠Q♥ (weight 2), A♥K♥ (weight 3); player 2: J♠T♠ (weight 1),
Q♥J♥ (weight 5) — the data of `Props/Witness/C02.lean`. -/
namespace SpecWitness
open EspadaVerif.Witness

def flop : List Card := [⟨0, 0⟩, ⟨1, 2⟩, ⟨7, 3⟩]
def ranges : List (List (Combo × Nat)) :=
  [[(⟨⟨2, 0⟩, ⟨2, 1⟩⟩, 2), (⟨⟨0, 1⟩, ⟨1, 1⟩⟩, 3)], [(⟨⟨3, 0⟩, ⟨4, 0⟩⟩, 1), (⟨⟨2, 1⟩, ⟨3, 1⟩⟩, 5)]]

theorem wf : WfInput flop ranges := by decide
theorem codes : flop.map Card.code = [0, 6, 31] := by decide
theorem entries : specEntries ranges = [[(8, 9, 2), (1, 5, 3)], [(12, 16, 1), (9, 13, 5)]] := by decide

example : (deck49 (flop.map Card.code)).length = 49 ∧ (deck49 (flop.map Card.code)).Nodup
    ∧ (∀ n, n ∈ deck49 (flop.map Card.code) ↔ n < 52 ∧ n ∉ flop.map Card.code)
    ∧ (deck49 (flop.map Card.code)).Pairwise (· < ·) := deck49_spec_wf flop ranges wf
example : deck49 [0, 6, 31] = [1, 2, 3, 4, 5, 7, 8, 9, 10, 11, 12, 13, 14, 15, 16, 17, 18, 19, 20, 21, 22, 23,
    24, 25, 26, 27, 28, 29, 30, 32, 33, 34, 35, 36, 37, 38, 39, 40, 41, 42, 43, 44, 45, 46, 47, 48, 49, 50,
    51] := by decide
/-- without the flop hypothesis the deck is not 49 cards (a repeated flop card leaves 50) -/
example : (deck49 [0, 0, 31]).length = 50 := by decide

/-- the pair {2♣, 2♥} = codes {51, 49}, given in the "wrong" order: the position is
(46, 48), where the turn is 2♥ -/
example : ∃ p, p ∈ allPositions ∧ pairAt (deck49 [0, 6, 31]) p 51 49
    ∧ ∀ q, q ∈ allPositions → pairAt (deck49 [0, 6, 31]) q 51 49 → q = p :=
  unordered_once [0, 6, 31] (codes ▸ wf.wfFlop.spec) 51 49 (by decide) (by decide) (by decide)
example : pairAt (deck49 [0, 6, 31]) (46, 48) 51 49 := Or.inr ⟨by decide, by decide⟩

/-- the deal "turn 2♥, river 2♣, A♥K♥ against Q♥J♥" -/
def d₀ : Deal Nat := { turn := 49, river := 51, choice := [(1, 5, 3), (9, 13, 5)] }
/-- the blocked choice "Q♠Q♥ against Q♥J♥" at the same position -/
def d₁ : Deal Nat := { turn := 49, river := 51, choice := [(8, 9, 2), (9, 13, 5)] }

/-- `deals_mem_iff` used from right to left: `d₀` is in the full enumeration because it satisfies the
characterisation (position (46, 48), entries taken from the lists, nine distinct cards) -/
theorem d₀_mem : d₀ ∈ deals (flop.map Card.code) (specEntries ranges) (0, 1) (48, 49) := by
  rw [deals_mem_iff _ _ wf.wfFlop.spec, codes, entries]
  exact ⟨⟨46, 48, by decide, by decide, by decide, by decide⟩, (choiceFrom_iff _ _).mpr (by decide), by decide⟩

/-- … and from left to right: `d₁` is not, because Q♥ would be held twice -/
theorem d₁_not_mem : d₁ ∉ deals (flop.map Card.code) (specEntries ranges) (0, 1) (48, 49) := by
  rw [deals_mem_iff _ _ wf.wfFlop.spec, codes]
  intro h
  exact absurd h.2.2 (by decide)

example : (deals (flop.map Card.code) (specEntries ranges) (0, 1) (48, 49)).Nodup :=
  deals_nodup_wf flop ranges _ _ wf
example : (deals (flop.map Card.code) (specEntries ranges) (46, 47) (48, 49)).Nodup :=
  deals_nodup_wf flop ranges _ _ wf
/-- the hypothesis "no list has a duplicate entry" is needed: a list naming Q♠Q♥ twice yields the deal twice
(not reachable through the crate: `HandRange` is a map keyed by the combo) -/
example : ¬ (deals [0, 6, 31] [[(8, 9, 2), (8, 9, 2)]] (47, 48) (48, 49)).Nodup := by
  rw [deals_of_positions positions_last1]
  decide +kernel

theorem C02_exactly_once_at_witness :
    ∃ s₀ : IterState Nat, (Evaluator.new (flop.map some ++ [none, none]) ranges).intoIter = .ok s₀ ∧
    ∃ (sds : List (Showdown Nat)) (sEnd : IterState Nat),
      (∀ limit, sds.length < limit → drainFuel natOps limit s₀ [] = .ok (sds, sEnd))
      ∧ next natOps sEnd = .ok (none, sEnd)
      ∧ sds.Nodup
      ∧ (∀ sd, sd ∈ sds ↔ ∃ d : Deal Nat,
          ((∃ t r, t < r ∧ r < 49 ∧ (deck49 (flop.map Card.code))[t]? = some d.turn
              ∧ (deck49 (flop.map Card.code))[r]? = some d.river)
            ∧ ChoiceFrom (specEntries ranges) d.choice ∧ Deal.legal (flop.map Card.code) d = true)
          ∧ showdownOfDeal natOps flop d = .ok (some sd))
      ∧ (∀ d d' : Deal Nat, d ∈ deals (flop.map Card.code) (specEntries ranges) (0, 1) (48, 49) →
          d' ∈ deals (flop.map Card.code) (specEntries ranges) (0, 1) (48, 49) →
          showdownOfDeal natOps flop d = showdownOfDeal natOps flop d' → d = d') :=
  C02_exactly_once natOps flop ranges wf

/-- a closed consequence: the showdown of `d₀` is among the drained showdowns of the unscoped evaluator -/
example : ∃ s₀ : IterState Nat, (Evaluator.new (flop.map some ++ [none, none]) ranges).intoIter = .ok s₀ ∧
    ∃ (sds : List (Showdown Nat)) (sEnd : IterState Nat),
      (∀ limit, sds.length < limit → drainFuel natOps limit s₀ [] = .ok (sds, sEnd)) ∧
      ∃ sd ∈ sds, showdownOfDeal natOps flop d₀ = .ok (some sd) ∧ sd.prob = 15 := by
  obtain ⟨s₀, h0, sds, sEnd, hdrain, _, _, hmem, _⟩ := C02_exactly_once_at_witness
  obtain ⟨sd, hsd, _, _, hprob, _⟩ := C02_payload natOps flop ranges (0, 1) (48, 49) wf d₀ d₀_mem
  refine ⟨s₀, h0, sds, sEnd, hdrain, sd, ?_, hsd, by rw [hprob]; decide⟩
  exact (hmem sd).mpr ⟨d₀, (deals_mem_iff _ _ wf.wfFlop.spec d₀).mp d₀_mem, hsd⟩

end SpecWitness

end EspadaVerif.C02
