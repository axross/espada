/-
C10 (showdowns) — "every showdown probability computed from parsed ranges also lies in [0,1] and no
showdown ever contains the same card twice", as ONE statement about the iterator's output on PARSED ranges.

`C10_prob` is about a list fold and `C10_cards` about `Spec.deals` on any well-formed input; here `C10_prob` is composed
with `C10_combo` / `C10_weight` (what the parser produces) and with the drain as the image of the enumeration
(`IterLemmas.drainOf_eq_map`: what the iterator emits is `sdOf` of a legal deal, whose probability is the product of
the chosen weights and whose cards differ, `sdOf_nodup`): for any texts, the evaluator built from their parsed ranges
drains, and EVERY showdown it emits has its probability in the weight domain and 5 + 2n pairwise different cards.
-/
import EspadaVerif.Props.C10
import EspadaVerif.Props.C02
import EspadaVerif.Props.Witness.C10
import EspadaVerif.Lemmas.Decide


namespace EspadaVerif.C10
open RangeAux

variable {W : Type}

/-- the evaluator's input built from parsed ranges is proper (C10_combo + the map's keys are distinct) -/
theorem wfInput_of_parsed (wt : WText W) (flop : List Card)
    (hf : flop.length = 3 ∧ flop.Nodup ∧ ∀ c ∈ flop, c.valid = true)
    (rs : List (HandRange W)) (hrs : ∀ r ∈ rs, ∃ s, parseRange wt s = .ok r) :
    C02.WfInput flop (rs.map HandRange.contents) := by
  refine ⟨hf.1, hf.2.1, hf.2.2, ?_, ?_⟩
  · intro es hes e he
    obtain ⟨r, hr, rfl⟩ := List.mem_map.mp hes
    obtain ⟨s, hs⟩ := hrs r hr
    exact C10_combo wt s r hs e (mem_contents r e he)
  · intro es hes
    obtain ⟨r, _, rfl⟩ := List.mem_map.mp hes
    exact contents_nodup r

/-- **C10 (showdowns of parsed ranges).** For any list of texts `ss` with parsed ranges `rs`, any flop of three different
valid cards and any valid scope: the evaluator over the ranges' contents drains (with any fuel limit above the number of
showdowns) and EVERY emitted showdown has a probability in the weight domain, a five-card board, and no card twice among
the board cards and all players' hole cards. -/
theorem C10_showdown (wt : WText W) (ops : WOps W) (inDom : W → Prop) (hone : inDom wt.one)
    (hparse : ∀ t w, isWeightText t = true → wt.parseW t = some w → inDom w)
    (hempty : wt.parseW [] = none)
    (hone' : inDom ops.one) (hmul : ∀ a b, inDom a → inDom b → inDom (ops.mul a b))
    (ss : List Bytes) (rs : List (HandRange W)) (hlen : rs.length = ss.length)
    (hrs : ∀ (i : Nat) s r, ss[i]? = some s → rs[i]? = some r → parseRange wt s = .ok r)
    (flop : List Card) (hf : flop.length = 3 ∧ flop.Nodup ∧ ∀ c ∈ flop, c.valid = true)
    (a b : Nat × Nat) (hs : C02.ValidScope a b) :
    ∃ s₀ : IterState W, (C02.mkEvaluator flop (rs.map HandRange.contents) a b).intoIter = .ok s₀ ∧
    ∃ (sds : List (Showdown W)) (sEnd : IterState W),
      (∀ limit, sds.length < limit → drainFuel ops limit s₀ [] = .ok (sds, sEnd))
      ∧ EspadaVerif.next ops sEnd = .ok (none, sEnd)
      ∧ ∀ sd ∈ sds, inDom sd.prob ∧ sd.board.length = 5
          ∧ (sd.board ++ sd.players.flatMap fun p => [p.hole.fst, p.hole.snd]).Nodup := by
  have hrs' : ∀ r ∈ rs, ∃ s, parseRange wt s = .ok r := by
    intro r hr
    obtain ⟨i, hi, rfl⟩ := List.getElem_of_mem hr
    have hi' : i < ss.length := hlen ▸ hi
    exact ⟨ss[i], hrs i _ _ (List.getElem?_eq_getElem hi') (List.getElem?_eq_getElem hi)⟩
  have hw := wfInput_of_parsed wt flop hf rs hrs'
  obtain ⟨s₀, sEnd, hs₀, hdrain, hnext⟩ := IterLemmas.scope_drain ops hw.wfFlop hw.rv hs
  refine ⟨s₀, hs₀, _, sEnd, hdrain, hnext, fun sd hsd => ?_⟩
  -- the showdown is the showdown of a legal deal
  rw [IterLemmas.drainOf_eq_map ops a b hw.wfFlop hw.rv] at hsd
  obtain ⟨d, hd, rfl⟩ := List.mem_map.mp hsd
  refine ⟨?_, by simp [IterLemmas.sdOf, hf.1], IterLemmas.sdOf_nodup ops (IterLemmas.legal_of_mem_deals hd)⟩
  -- the probability: a product, from one, of weights chosen from the parsed ranges
  obtain ⟨p, _, ch, hch, rfl, _⟩ := IterLemmas.eq_dealOf_of_mem_deals hd
  rw [show (IterLemmas.sdOf ops flop _).prob = _ from IterLemmas.dealOf_prob ops flop p ch, ← List.foldl_map]
  refine C10_prob ops inDom hone' hmul _ fun w hw => ?_
  obtain ⟨e, he, rfl⟩ := List.mem_map.mp hw
  obtain ⟨_, hes, hees⟩ := IterLemmas.mem_of_mem_product hch e he
  obtain ⟨r, hr, rfl⟩ := List.mem_map.mp hes
  obtain ⟨s, hs⟩ := hrs' r hr
  exact C10_weight wt inDom hone hparse hempty s r hs e (mem_contents r e hees)

open EspadaVerif.Witness in
/-- two players, both with the range `AKs,7d7c:0.5` (weights 1 and 0.5 of the four-element weight type whose value 2 lies
outside the domain), flop A♠ K♦ 7♣, the last three positions: every emitted showdown has its probability in
{0, 0.5, 1} and nine different cards -/
example :
    ∃ s₀ : IterState Wt,
      (C02.mkEvaluator Witness.flop ([Witness.r₀, Witness.r₀].map HandRange.contents) (46, 47) (48, 49)).intoIter = .ok s₀ ∧
    ∃ (sds : List (Showdown Wt)) (sEnd : IterState Wt),
      (∀ limit, sds.length < limit → drainFuel wtOps limit s₀ [] = .ok (sds, sEnd))
      ∧ EspadaVerif.next wtOps sEnd = .ok (none, sEnd)
      ∧ ∀ sd ∈ sds, wtDom sd.prob ∧ sd.board.length = 5
          ∧ (sd.board ++ sd.players.flatMap fun p => [p.hole.fst, p.hole.snd]).Nodup :=
  C10_showdown wtText wtOps wtDom wtextOk.one_dom wtextOk.parse_dom wtextOk.parse_empty wtextOk.one_dom wtDom_mul
    [Witness.txt, Witness.txt] [Witness.r₀, Witness.r₀] rfl
    (by
      intro i s r hs hr
      match i with
      | 0 => cases hs; cases hr; exact Witness.txt_parses
      | 1 => cases hs; cases hr; exact Witness.txt_parses
      | i + 2 => cases hs)
    Witness.flop (by decide) (46, 47) (48, 49) (by decide)

end EspadaVerif.C10
