/-
C15 — Evaluator instances are independent under any interleaving or thread schedule.

In the model `next` is a function of the iterator's own state: there is no other component it could read or
write.  The theorem below is the resulting frame property for arbitrary interleavings of `next()` calls over
any family of live iterators.  What ties it to the crate: (a) the translator's audit that the crate's
non-test code has no `static`, `thread_local!`, interior-mutable, lazily initialised or `unsafe` item
(`Gen.sharedStateHits`, regenerated on every run — the regexes are compiled per call); (b) compile-time
`Send + Sync` assertions in the harness; (c) the correspondence: interleaved and multi-threaded runs of the
real crate compared with solo runs.  OS thread schedules themselves are not modelled.
-/
import EspadaVerif.Model.Iter
import EspadaVerif.Gen.Audit

namespace EspadaVerif.C15

variable {W : Type}

/-- one `next()` call: the observable result and the iterator afterwards (unchanged if the call fails) -/
def call (ops : WOps W) (s : IterState W) : Res (Option (Showdown W)) × IterState W :=
  match next ops s with
  | .ok (o, s') => (.ok o, s')
  | .err => (.err, s)
  | .panic => (.panic, s)

/-- `k` calls on one iterator alone -/
def solo (ops : WOps W) : Nat → IterState W → List (Res (Option (Showdown W)))
  | 0, _ => []
  | k + 1, s => (call ops s).1 :: solo ops k (call ops s).2

/-- calls on a family of iterators (indexed by naturals) in the order given by the schedule; every result is
tagged with the instance that produced it -/
def interleaved (ops : WOps W) (states : Nat → IterState W) : List Nat → List (Nat × Res (Option (Showdown W)))
  | [] => []
  | i :: rest =>
    (i, (call ops (states i)).1) ::
      interleaved ops (fun j => if j = i then (call ops (states i)).2 else states j) rest

/-- the scheduled instance makes one call: its result comes first, the rest is the induction hypothesis at the
updated family.  `x` stands for `call ops (states j)` and is a variable on purpose: the statement has nothing to
do with what a call computes, and with `call` in the goal the kernel evaluates `next` (seconds, see
`IterLemmas.Halts.drainFuel_spec`). -/
theorem interleave_self (ops : WOps W) (j : Nat) (rest : List Nat) (states : Nat → IterState W)
    (ih : ∀ states : Nat → IterState W, ((interleaved ops states rest).filter (fun x => x.1 == j)).map (·.2)
      = solo ops (rest.count j) (states j)) (x : Res (Option (Showdown W)) × IterState W) :
    (((j, x.1) :: interleaved ops (fun k => if k = j then x.2 else states k) rest).filter (fun x => x.1 == j)).map (·.2)
      = x.1 :: solo ops (rest.count j) x.2 := by
  rw [List.filter_cons, if_pos (beq_self_eq_true j), List.map_cons, ih, if_pos rfl]

/-- **C15.** Under any schedule, what instance `i` returns is exactly what it returns when iterated alone the same
number of times. -/
theorem C15_interleave (ops : WOps W) (sched : List Nat) (states : Nat → IterState W) (i : Nat) :
    ((interleaved ops states sched).filter (fun x => x.1 == i)).map (·.2)
      = solo ops (sched.count i) (states i) := by
  induction sched generalizing states with
  | nil => rfl
  | cons j rest ih =>
    rw [interleaved]
    by_cases hji : j = i
    · subst hji
      rw [List.count_cons_self, solo]
      exact interleave_self ops j rest states ih _
    · rw [List.filter_cons, if_neg (by simpa using hji), ih, if_neg (fun h => hji h.symm),
        List.count_cons_of_ne hji]

/-- the crate's non-test code contains no item that could carry state shared between instances -/
theorem C15_no_shared_state : Gen.sharedStateHits = [] := by decide

end EspadaVerif.C15
