/-
Props/C05Oracle: two facts about the *specification side* of C05 (`Spec/Notation.lean`), independent of the crate.

* the notation is unambiguous: two well-formed tokens with the same text are the same token, so "the standard meaning of a
  token text" (C05) is well defined;
* the reader the correspondence oracle uses to attach `Spec.WfToken.denote` to a request (`Spec.readToken`, run by the driver)
  recognises every well-formed token from its text and never returns anything but the token whose text it was given —
  so no well-formed request escapes the `[C05]` oracle predicate, and the predicate is never attached to the wrong token.
-/
import EspadaVerif.Lemmas.ReadToken

namespace EspadaVerif.C05

theorem C05_notation_unambiguous (w₁ w₂ : Spec.WfToken) (h₁ : w₁.wf = true) (h₂ : w₂.wf = true)
    (h : w₁.text = w₂.text) : w₁ = w₂ :=
  Spec.text_injective w₁ w₂ h₁ h₂ h

theorem C05_oracle_reader_complete (w : Spec.WfToken) (h : w.wf = true) : Spec.readToken w.text = some w :=
  Spec.readToken_complete w h

theorem C05_oracle_reader_sound (t : List Nat) (w : Spec.WfToken) (h : Spec.readToken t = some w) :
    w.wf = true ∧ w.text = t :=
  Spec.readToken_sound t w h

/-- the hypotheses are satisfiable: "A9s+" is a well-formed token, read back from its text -/
example : (Spec.WfToken.pairPlus 0 5 true).wf = true ∧
    Spec.readToken (Spec.WfToken.pairPlus 0 5 true).text = some (.pairPlus 0 5 true) := by decide

end EspadaVerif.C05
