/-
C11 — the tallies of the MODEL's runs.

`Spec.tally` does not depend on the order in which a player's entries are listed (the hash-map iteration order
of the relabelled range is unrelated to the original one), nor on the order of the two cards inside an entry
(`CardPair::new` re-normalises each relabelled pair); hence the suit invariance holds for the REAL relabelled
input (`mkPair` of the relabelled cards, entries in any order: `C11_suits_model`), not only for the in-place
`relabelEntries`.  The tallies follow ANY reordering of the players (`perm_swaps`: every permutation of the
seats is a sequence of neighbour exchanges).  The tallies counted on the showdowns that the unscoped model
evaluator yields are `Spec.tally` (`C11_drain_tally`), so two runs, on an input and on its relabelled or
reordered form, tally alike; in a model showdown the winners' shares `1 / winner_len` add up to exactly one pot
(`C11_pot_sd`).
-/
import EspadaVerif.Props.C11
import EspadaVerif.Lemmas.Decide
import EspadaVerif.Props.C14
import EspadaVerif.Props.C15Perm
import EspadaVerif.Props.C03Rules
import EspadaVerif.Props.Witness.C11


namespace EspadaVerif.C11
open Spec EspadaVerif.TallyLemmas

variable {W : Type}

/-- **Entry order.** Listing each player's entries in another order (same players, same seats) leaves
every tally unchanged. -/
theorem tally_perm_entries (flop : List Nat) (entries entries' : List (List (Nat × Nat × W)))
    (hlen : entries'.length = entries.length)
    (h : ∀ i (hi : i < entries.length), (entries'[i]'(by omega)).Perm entries[i]) (p k : Nat) :
    tally flop entries' p k = tally flop entries p k :=
  (C15.deals_perm_entries flop entries' entries _ _ ⟨hlen, fun i _ h₂ => h i h₂⟩).countP_eq _

def swapCards (e : Nat × Nat × W) : Nat × Nat × W := (e.2.1, e.1, e.2.2)

/-- **Card order, general form.** Two inputs read off the same table `T` of raw items, where the second
reading `g` gives for every item either the entry that the first reading `f` gives or that entry with its two
cards exchanged, have the same tallies.  (The choice may depend on anything the item carries — its value, its
seat, its position in the list.) -/
theorem tally_swap_cards_gen {β : Type} (flop : List Nat) (T : List (List β)) (f g : β → Nat × Nat × W)
    (h : ∀ es ∈ T, ∀ x ∈ es, g x = f x ∨ g x = swapCards (f x)) (p k : Nat) :
    tally flop (T.map (List.map g)) p k = tally flop (T.map (List.map f)) p k :=
  tally_congr fun t r => posCount_map .id (by simp) T f g (fun es hes x hx => by
    rcases h es hes x hx with e | e <;> rw [e, List.map_id]
    exact List.Perm.swap _ _ _) p k

/-- **Card order.** Exchanging the two cards inside the entries selected by any Boolean choice function
leaves every tally unchanged. -/
theorem tally_swap_cards (flop : List Nat) (entries : List (List (Nat × Nat × W)))
    (b : Nat × Nat × W → Bool) (p k : Nat) :
    tally flop (entries.map (List.map fun e => if b e then swapCards e else e)) p k = tally flop entries p k := by
  have := tally_swap_cards_gen flop entries (fun e => e) (fun e => if b e then swapCards e else e)
    (by intro es _ x _; cases b x <;> simp) p k
  simpa using this

/-- the choice made by seat `i` and list position `j` (so that of two equal entries one may be exchanged
and the other not) -/
theorem tally_swap_cards_at (flop : List Nat) (entries : List (List (Nat × Nat × W)))
    (b : Nat → Nat → Bool) (p k : Nat) :
    tally flop (entries.zipIdx.map fun esi =>
        esi.1.zipIdx.map fun ej => if b esi.2 ej.2 then swapCards ej.1 else ej.1) p k
      = tally flop entries p k := by
  have := tally_swap_cards_gen flop
    (entries.zipIdx.map fun esi => esi.1.zipIdx.map fun ej => (ej.1, esi.2, ej.2)) (·.1)
    (fun x => if b x.2.1 x.2.2 then swapCards x.1 else x.1)
    (by intro es _ x _; cases b x.2.1 x.2.2 <;> simp) p k
  simpa only [List.map_map, Function.comp_def, List.zipIdx_map_fst] using this

def relabelC (σ : Nat → Nat) (c : Card) : Card := ⟨c.rank, σ c.suit⟩

/-- what the relabelled range holds for an entry: both cards relabelled, the pair re-normalised by
`CardPair::new`, the weight kept -/
def relabelCombo (σ : Nat → Nat) (e : Combo × W) : Combo × W :=
  (mkPair (relabelC σ e.1.fst) (relabelC σ e.1.snd), e.2)

theorem code_relabelC (σ : Nat → Nat) (c : Card) (hv : c.valid = true) : (relabelC σ c).code = relabel σ c.code := by
  have := (Card.valid_iff c).mp hv
  have e1 : (c.rank * 4 + c.suit) / 4 = c.rank := by omega
  have e2 : (c.rank * 4 + c.suit) % 4 = c.suit := by omega
  simp only [relabelC, Card.code, relabel, e1, e2]
  omega

theorem valid_relabelC (σ : Nat → Nat) (hσ : SuitPerm σ) (c : Card) (hv : c.valid = true) :
    (relabelC σ c).valid = true := by
  have hv := (Card.valid_iff c).mp hv
  exact (Card.valid_iff _).mpr ⟨hv.1, hσ.1 _ hv.2⟩

theorem relabelC_inj (σ : Nat → Nat) (hσ : SuitPerm σ) (a b : Card) (ha : a.valid = true) (hb : b.valid = true)
    (h : relabelC σ a = relabelC σ b) : a = b :=
  Card.code_inj ha hb (relabel_inj σ hσ _ _ (by rw [← code_relabelC σ a ha, ← code_relabelC σ b hb, h]))

/-- the relabelled entry of a proper entry is a proper entry again, and its two cards are the two relabelled
cards in one order or the other -/
theorem relabelCombo_spec (σ : Nat → Nat) (hσ : SuitPerm σ) (e : Combo × W) (he : TextDefs.ComboOk e.1) :
    TextDefs.ComboOk (relabelCombo σ e).1
      ∧ [(relabelCombo σ e).1.fst.code, (relabelCombo σ e).1.snd.code].Perm
          ([e.1.fst.code, e.1.snd.code].map (relabel σ)) := by
  obtain ⟨v1, v2, hlt⟩ := he
  have w1 := valid_relabelC σ hσ _ v1
  have w2 := valid_relabelC σ hσ _ v2
  obtain ⟨_, hl, hc⟩ := C14.pair_canonical _ _ fun hc => Card.lt_ne hlt (relabelC_inj σ hσ _ _ v1 v2 hc)
  simp only [TextDefs.ComboOk, relabelCombo, List.map_cons, List.map_nil, ← code_relabelC σ _ v1,
    ← code_relabelC σ _ v2]
  rcases hc with ⟨h1, h2⟩ | ⟨h1, h2⟩ <;> rw [h1, h2] at hl ⊢
  · exact ⟨⟨w1, w2, hl⟩, .refl _⟩
  · exact ⟨⟨w2, w1, hl⟩, .swap _ _ _⟩

theorem flop_codes_relabel (σ : Nat → Nat) (flop : List Card) (hv : ∀ c ∈ flop, c.valid = true) :
    (flop.map (relabelC σ)).map Card.code = (flop.map Card.code).map (relabel σ) := by
  rw [List.map_map, List.map_map]
  exact List.map_congr_left fun c hc => code_relabelC σ c (hv c hc)

/-- the hypothesis on `R'` of the theorems below: it is the in-place relabelling up to the order of the entries -/
theorem entriesPerm_relabel {σ : Nat → Nat} {R R' : List (List (Combo × W))} (hlen : R'.length = R.length)
    (hperm : ∀ i (hi : i < R.length) (hi' : i < R'.length), R'[i].Perm (R[i].map (relabelCombo σ))) :
    C15.EntriesPerm R' (R.map (List.map (relabelCombo σ))) :=
  ⟨by rw [List.length_map, hlen], fun i h₁ h₂ => by
    rw [List.getElem_map]
    exact hperm i (by simpa using h₂) h₁⟩

/-- **C11 (suits, on the model's input).** `R'` is what the relabelled ranges really hold: for every player, in
ANY order (hash-map iteration), the entries of `R` with both cards relabelled and the pair re-normalised by
`CardPair::new`; the flop is relabelled in place.  Every tally is the same as for `flop`, `R`. -/
theorem C11_suits_model (σ : Nat → Nat) (hσ : SuitPerm σ) (flop : List Card) (R R' : List (List (Combo × W)))
    (h : C02.WfInput flop R) (hlen : R'.length = R.length)
    (hperm : ∀ i (hi : i < R.length), (R'[i]'(by omega)).Perm (R[i].map (relabelCombo σ))) (p k : Nat) :
    tally ((flop.map (relabelC σ)).map Card.code) (C02.specEntries R') p k
      = tally (flop.map Card.code) (C02.specEntries R) p k := by
  -- the order of the entries does not matter
  refine ((C15.deals_perm_entries _ _ _ _ _
    (C15.specEntries_perm (entriesPerm_relabel hlen fun i hi _ => hperm i hi))).countP_eq _).trans ?_
  rw [IterLemmas.specEntries_map, flop_codes_relabel σ flop h.flop_valid]
  refine tally_relabel σ hσ h.wfFlop.spec _ _ p k fun x y => ?_
  -- entry by entry, the two cards of the stored pair are the two relabelled cards in one order or the other
  exact posCount_map hσ.renaming (by simp) R _ _
    (fun es hes e he => (relabelCombo_spec σ hσ e (h.combos es hes e he)).2) p k

/-- different proper entries keep different pairs: re-normalising cannot identify two of them, since an exchange
of the cards of one against the other would reverse the canonical order -/
theorem relabelCombo_inj (σ : Nat → Nat) (hσ : SuitPerm σ) (a b : Combo) (ha : TextDefs.ComboOk a)
    (hb : TextDefs.ComboOk b)
    (e : mkPair (relabelC σ a.fst) (relabelC σ a.snd) = mkPair (relabelC σ b.fst) (relabelC σ b.snd)) : a = b := by
  obtain ⟨⟨a1, a2, alt⟩, ⟨b1, b2, blt⟩⟩ := ha, hb
  have inj := relabelC_inj σ hσ
  rcases C14.mkPair_inj (fun hc => Card.lt_ne alt (inj _ _ a1 a2 hc))
    (fun hc => Card.lt_ne blt (inj _ _ b1 b2 hc)) e with ⟨k1, k2⟩ | ⟨k1, k2⟩
  · cases a
    cases b
    exact congr (congrArg Combo.mk (inj _ _ a1 b1 k1)) (inj _ _ a2 b2 k2)
  · rw [inj _ _ a1 b2 k1, inj _ _ a2 b1 k2, Card.lt_asymm blt] at alt
    cases alt

/-- the relabelled input is again a proper input (so the iterator theorems apply to the second run) -/
theorem wfInput_relabel (σ : Nat → Nat) (hσ : SuitPerm σ) (flop : List Card) (R R' : List (List (Combo × W)))
    (h : C02.WfInput flop R) (hlen : R'.length = R.length)
    (hperm : ∀ i (hi : i < R.length), (R'[i]'(by omega)).Perm (R[i].map (relabelCombo σ))) :
    C02.WfInput (flop.map (relabelC σ)) R' := by
  refine C02.WfInput.of_mem ⟨by simpa using h.flop_len,
      (Lemmas.nodup_map_iff fun a ha b hb =>
        relabelC_inj σ hσ a b (h.flop_valid a ha) (h.flop_valid b hb)).mpr h.flop_nodup,
      List.forall_mem_map.mpr fun c hc => valid_relabelC σ hσ c (h.flop_valid c hc),
      List.forall_mem_map.mpr fun es hes => List.forall_mem_map.mpr fun e he =>
        (relabelCombo_spec σ hσ e (h.combos es hes e he)).1,
      List.forall_mem_map.mpr fun es hes => ?_⟩
    fun es' hes' => (entriesPerm_relabel hlen fun i hi _ => hperm i hi).mem hes'
  have hnd := h.nodup es hes
  rw [List.Nodup, List.pairwise_map] at hnd ⊢
  rw [List.pairwise_map]
  exact hnd.imp_of_mem fun ha hb hab e =>
    hab (relabelCombo_inj σ hσ _ _ (h.combos es hes _ ha) (h.combos es hes _ hb) e)

/-- a sequence of neighbour exchanges, applied from left to right -/
def applySwaps {α : Type} (is : List Nat) (l : List α) : List α := is.foldl (fun l i => swapAt i l) l

/-- where the player at seat `p` sits after the sequence -/
def idxAfter (is : List Nat) (p : Nat) : Nat := is.foldl (fun p i => swapIdx i p) p

theorem applySwaps_length {α : Type} (is : List Nat) (l : List α) : (applySwaps is l).length = l.length := by
  induction is generalizing l with
  | nil => rfl
  | cons i is ih => exact (ih _).trans (swapAt_length i l)

theorem applySwaps_cons {α : Type} (is : List Nat) (x : α) (l : List α) :
    applySwaps (is.map (· + 1)) (x :: l) = x :: applySwaps is l := by
  induction is generalizing l with
  | nil => rfl
  | cons i is ih => exact ih _  -- `swapAt (i + 1) (x :: l)` is `x :: swapAt i l` by definition

theorem applySwaps_append {α : Type} (is₁ is₂ : List Nat) (l : List α) :
    applySwaps (is₁ ++ is₂) l = applySwaps is₂ (applySwaps is₁ l) :=
  List.foldl_append

theorem applySwaps_map {α β : Type} (f : α → β) (is : List Nat) (l : List α) :
    applySwaps is (l.map f) = (applySwaps is l).map f := by
  induction is generalizing l with
  | nil => rfl
  | cons i is ih => exact (congrArg (applySwaps is) (swapAt_map f i l)).trans (ih _)

/-- **neighbour exchanges generate every reordering**: any permutation of a list is reached by a sequence
of (in-range) neighbour exchanges -/
theorem perm_swaps {α : Type} {l₁ l₂ : List α} (h : l₁.Perm l₂) :
    ∃ is : List Nat, (∀ i ∈ is, i + 1 < l₁.length) ∧ applySwaps is l₁ = l₂ := by
  induction h with
  | nil => exact ⟨[], by simp, rfl⟩
  | cons x _ ih =>
    obtain ⟨is, hb, he⟩ := ih
    exact ⟨is.map (· + 1), by simpa using hb, by rw [applySwaps_cons, he]⟩
  | swap x y l => exact ⟨[0], by simp, rfl⟩
  | trans h₁ _ ih₁ ih₂ =>
    obtain ⟨is₁, hb₁, he₁⟩ := ih₁
    obtain ⟨is₂, hb₂, he₂⟩ := ih₂
    exact ⟨is₁ ++ is₂, fun i hi => (List.mem_append.mp hi).elim (hb₁ i) fun hi => h₁.length_eq ▸ hb₂ i hi,
      by rw [applySwaps_append, he₁, he₂]⟩

/-- what every in-range neighbour exchange preserves (of a table and a seat), a sequence of them preserves -/
theorem applySwaps_invariant {α β : Type} (Φ : List α → Nat → β)
    (hΦ : ∀ i l p, i + 1 < l.length → Φ (swapAt i l) (swapIdx i p) = Φ l p)
    (is : List Nat) (l : List α) (h : ∀ i ∈ is, i + 1 < l.length) (p : Nat) :
    Φ (applySwaps is l) (idxAfter is p) = Φ l p := by
  induction is generalizing l p with
  | nil => rfl
  | cons i is ih =>
    refine (ih (swapAt i l) (fun j hj => ?_) (swapIdx i p)).trans (hΦ i l p (h i (by simp)))
    rw [swapAt_length]
    exact h j (List.mem_cons_of_mem _ hj)

/-- **C11 (players, any reordering).** Let `π` be any reordering of the seats `0 … n-1`; seat `p` of the
reordered table is taken by the old player `π[p]`.  Then the tallies of seat `p` of the reordered table are
those of the old player `π[p]`. -/
theorem C11_players_perm (flop : List Nat) (entries : List (List (Nat × Nat × W))) (π : List Nat)
    (hπ : π.Perm (List.range entries.length)) (p : Nat) (hp : p < entries.length) (k : Nat) :
    tally flop (π.map (entries[·]!)) p k = tally flop entries (π[p]!) k := by
  obtain ⟨is, hb, he⟩ := perm_swaps hπ
  have hpπ : p < π.length := by rw [hπ.length_eq, List.length_range]; exact hp
  -- follow seat `p` through the exchanges that sort `π`: it ends at seat `π[p]`, …
  have h1 := applySwaps_invariant (fun l p => l[p]?) (fun i l p h => swapAt_getElem? i p l h) is π hb p
  rw [he, List.getElem?_eq_getElem hpπ] at h1
  obtain ⟨_, h1⟩ := List.getElem?_eq_some_iff.mp h1
  rw [List.getElem_range] at h1
  -- … the tallies follow (`C11_players`), and the table `π.map (entries[·]!)` becomes `entries`
  have h2 := applySwaps_invariant (fun E p => tally flop E p k) (fun i E p h => C11_players flop E i h p k)
    is (π.map (entries[·]!)) (by simpa using hb) p
  rw [applySwaps_map, he, Lemmas.map_range_getElem!, h1] at h2
  rw [getElem!_pos π p hpπ, h2]

/-- tally counted on yielded showdowns: in how many of them player `p` is flagged and exactly `k` players are -/
def tallyOf (sds : List (Showdown W)) (p k : Nat) : Nat :=
  sds.countP fun sd => (sd.players[p]?.map (·.win) == some true) && sd.players.countP (·.win) == k

/-- the tallies counted on the drain of a scope are the specification's count over the deals of that scope:
every deal stands for its showdown (`drainOf_eq_map`), which carries the deal's flags (`sdOf_win`) -/
theorem tallyOf_drainOf (ops : WOps W) (flop : List Card) (R : List (List (Combo × W))) (h : C02.WfInput flop R)
    (a b : Nat × Nat) (p k : Nat) :
    tallyOf (IterLemmas.drainOf ops flop R a b) p k
      = (deals (flop.map Card.code) (C02.specEntries R) a b).countP fun d =>
          (dealWins (flop.map Card.code) d)[p]? == some true && (dealWins (flop.map Card.code) d).countP id == k := by
  rw [IterLemmas.drainOf_eq_map ops a b h.wfFlop h.rv, tallyOf, List.countP_map]
  refine List.countP_congr fun d _ => ?_
  rw [← sdOf_win ops flop h.flop_valid d, List.getElem?_map, List.countP_map]
  rfl

/-- **C11 (the iterator's tallies).** Drain the unscoped model evaluator of a proper input (any run of `drainFuel`
that stopped before exhausting its limit, i.e. on `next() = None`): the tallies counted on the yielded
showdowns are the specification's tallies. -/
theorem C11_drain_tally (ops : WOps W) (flop : List Card) (R : List (List (Combo × W))) (h : C02.WfInput flop R)
    (s₀ : IterState W) (h0 : (Evaluator.new (flop.map some ++ [none, none]) R).intoIter = .ok s₀)
    (limit : Nat) (sds : List (Showdown W)) (sEnd : IterState W)
    (hd : drainFuel ops limit s₀ [] = .ok (sds, sEnd)) (hl : sds.length < limit) (p k : Nat) :
    tallyOf sds p k = tally (flop.map Card.code) (C02.specEntries R) p k := by
  -- the default scope of `FlopExhaustiveEvaluator::new` is the full enumeration
  rw [C04.eq_of_stopped ops h0 hd hl (IterLemmas.scope_drain ops h.wfFlop h.rv .full)]
  exact tallyOf_drainOf ops flop R h (0, 1) (48, 49) p k

/-- existence form: the unscoped evaluator of a proper input does drain, and its tallies are the specification's -/
theorem C11_drain_tally_exists (ops : WOps W) (flop : List Card) (R : List (List (Combo × W)))
    (h : C02.WfInput flop R) :
    ∃ (s₀ : IterState W) (sds : List (Showdown W)) (sEnd : IterState W),
      (Evaluator.new (flop.map some ++ [none, none]) R).intoIter = .ok s₀
      ∧ (∀ limit, sds.length < limit → drainFuel ops limit s₀ [] = .ok (sds, sEnd))
      ∧ next ops sEnd = .ok (none, sEnd)
      ∧ ∀ p k, tallyOf sds p k = tally (flop.map Card.code) (C02.specEntries R) p k := by
  obtain ⟨s₀, sEnd, h0, hdr, hn⟩ :=
    IterLemmas.scope_drain ops h.wfFlop h.rv .full
  exact ⟨s₀, _, sEnd, h0, hdr, hn, tallyOf_drainOf ops flop R h (0, 1) (48, 49)⟩

/-- **C11 (suits, end to end).** Two runs of the unscoped model evaluator: on a proper input `flop`, `R`, and on
its relabelled form (flop relabelled in place; each player's range holding, in any order, the re-normalised
relabelled pairs with their weights).  Both drains tally alike, for every seat `p` and every `k`. -/
theorem C11_suits_end_to_end (ops : WOps W) (σ : Nat → Nat) (hσ : SuitPerm σ) (flop : List Card)
    (R R' : List (List (Combo × W))) (h : C02.WfInput flop R) (hlen : R'.length = R.length)
    (hperm : ∀ i (hi : i < R.length), (R'[i]'(by omega)).Perm (R[i].map (relabelCombo σ)))
    (s₀ s₀' : IterState W)
    (h0 : (Evaluator.new (flop.map some ++ [none, none]) R).intoIter = .ok s₀)
    (h0' : (Evaluator.new ((flop.map (relabelC σ)).map some ++ [none, none]) R').intoIter = .ok s₀')
    (limit limit' : Nat) (sds sds' : List (Showdown W)) (sEnd sEnd' : IterState W)
    (hd : drainFuel ops limit s₀ [] = .ok (sds, sEnd)) (hl : sds.length < limit)
    (hd' : drainFuel ops limit' s₀' [] = .ok (sds', sEnd')) (hl' : sds'.length < limit') (p k : Nat) :
    tallyOf sds' p k = tallyOf sds p k := by
  rw [C11_drain_tally ops flop R h s₀ h0 limit sds sEnd hd hl,
    C11_drain_tally ops (flop.map (relabelC σ)) R' (wfInput_relabel σ hσ flop R R' h hlen hperm) s₀' h0' limit' sds'
      sEnd' hd' hl']
  exact C11_suits_model σ hσ flop R R' h hlen hperm p k

/-- the same for a reordering of the players: seat `p` of the reordered run tallies like the old player `π[p]` -/
theorem C11_players_end_to_end (ops : WOps W) (flop : List Card) (R : List (List (Combo × W)))
    (h : C02.WfInput flop R) (π : List Nat) (hπ : π.Perm (List.range R.length)) (p : Nat) (hp : p < R.length)
    (s₀ s₀' : IterState W)
    (h0 : (Evaluator.new (flop.map some ++ [none, none]) R).intoIter = .ok s₀)
    (h0' : (Evaluator.new (flop.map some ++ [none, none]) (π.map (R[·]!))).intoIter = .ok s₀')
    (limit limit' : Nat) (sds sds' : List (Showdown W)) (sEnd sEnd' : IterState W)
    (hd : drainFuel ops limit s₀ [] = .ok (sds, sEnd)) (hl : sds.length < limit)
    (hd' : drainFuel ops limit' s₀' [] = .ok (sds', sEnd')) (hl' : sds'.length < limit') (k : Nat) :
    tallyOf sds' p k = tallyOf sds (π[p]!) k := by
  have h' : C02.WfInput flop (π.map (R[·]!)) := h.of_mem fun es hes => by
    obtain ⟨i, hi, rfl⟩ := List.mem_map.mp hes
    have hi' : i < R.length := List.mem_range.mp (hπ.mem_iff.mp hi)
    exact ⟨R[i], List.getElem_mem hi', by rw [getElem!_pos R i hi']⟩
  -- (a seat out of range would read `[]` on both sides)
  have e : C02.specEntries (π.map (R[·]!)) = π.map ((C02.specEntries R)[·]!) := by
    rw [IterLemmas.specEntries_eq, List.map_map]
    exact List.map_congr_left fun i _ => (IterLemmas.specEntries_getElem! R i).symm
  rw [C11_drain_tally ops flop R h s₀ h0 limit sds sEnd hd hl,
    C11_drain_tally ops flop (π.map (R[·]!)) h' s₀' h0' limit' sds' sEnd' hd' hl', e]
  exact C11_players_perm (flop.map Card.code) (C02.specEntries R) π (by rwa [IterLemmas.specEntries_length]) p
    (by rwa [IterLemmas.specEntries_length]) k

/-- **C11 (pot), weakest form.** A produced showdown of a non-empty table whose `winner_len()` returns `k`
— in a debug build (where an overflowing count traps instead of returning), or with at most 255 flagged
players — has `k ≥ 1`, and the winners' shares of `1 / k` add up to exactly one pot. -/
theorem C11_pot_sd_weak (board : List Card) (ps : List Combo) (prob : W) (h : C03.WfTable board ps) (hne : ps ≠ [])
    (sd : Showdown W) (hsd : showdownNew ps board prob = .ok (some sd)) (dbg : Bool)
    (hb : dbg = true ∨ sd.players.countP (·.win) ≤ 255) (k : Nat) (hk : winnerLen sd dbg = .ok k) :
    1 ≤ k ∧ ((sd.players.filter (·.win)).map fun _ => (1 : Rat) / k).sum = 1 := by
  have h1 : 1 ≤ sd.players.countP (·.win) := by
    rw [(C03.eq_of_some board ps prob h sd hsd).2]
    exact C03.ruled_winner _ ps hne
  have hk' : k = sd.players.countP (·.win) := by
    simp only [winnerLen] at hk
    split at hk
    · exact (Res.ok.inj hk).symm
    · rcases hb with rfl | hb
      · cases hk
      · contradiction
  refine ⟨by omega, ?_⟩
  rw [Lemmas.sum_map_const_rat, ← List.countP_eq_length_filter, ← hk']
  exact C11_pot_shares k (by omega)

/-- **C11 (pot).** Under the property's precondition (five board cards and two hole cards per player, all valid
and pairwise different — hence at most 23 players — and at least one player): whatever `winner_len()` returns,
in a debug or a release build, is `k ≥ 1`, and the winners' shares of `1 / k` add up to exactly one pot. -/
theorem C11_pot_sd (board : List Card) (ps : List Combo) (prob : W) (h : C03.WfTable board ps) (hne : ps ≠ [])
    (hnd : (C03.tableCards board ps).Nodup) (sd : Showdown W) (hsd : showdownNew ps board prob = .ok (some sd))
    (dbg : Bool) (k : Nat) (hk : winnerLen sd dbg = .ok k) :
    1 ≤ k ∧ ((sd.players.filter (·.win)).map fun _ => (1 : Rat) / k).sum = 1 := by
  have := C03.players_le_23 board ps h hnd
  have hl : sd.players.length = ps.length := by
    rw [(C03.eq_of_some board ps prob h sd hsd).2, C03.ruled_length]
  have := List.countP_le_length (p := fun pl : ShowdownPlayer => pl.win) (l := sd.players)
  exact C11_pot_sd_weak board ps prob h hne sd hsd dbg (Or.inr (by omega)) k hk

/-! ## instances at concrete data (flop A♠ K♦ 7♣, the suit 3-cycle `σ` of `Props/Witness/C11.lean`) -/

namespace ModelWitness
open EspadaVerif.C11.Witness EspadaVerif.Witness

/-- player 0's two entries listed in the other order -/
def entriesRev : List (List (Nat × Nat × Nat)) := [[(1, 5, 3), (8, 9, 2)], [(12, 16, 1), (9, 13, 5)], [(26, 27, 4)]]

theorem entriesRev_perm : ∀ i (hi : i < entries.length), (entriesRev[i]'(Nat.lt_of_lt_of_eq hi rfl)).Perm entries[i] := by
  decide

theorem tally_perm_entries_at_witness (p k : Nat) : tally flopCodes entriesRev p k = tally flopCodes entries p k :=
  tally_perm_entries flopCodes entries entriesRev rfl entriesRev_perm p k

/-- Q♠Q♥ stored as (9, 8) instead of (8, 9), everything else as in `entries` -/
theorem tally_swap_cards_at_witness (p k : Nat) :
    tally flopCodes [[(9, 8, 2), (1, 5, 3)], [(12, 16, 1), (9, 13, 5)], [(26, 27, 4)]] p k = tally flopCodes entries p k :=
  tally_swap_cards flopCodes entries (fun e => e.1 == 8) p k
example : entries.map (List.map fun e => if (fun e : Nat × Nat × Nat => e.1 == 8) e then swapCards e else e)
    = [[(9, 8, 2), (1, 5, 3)], [(12, 16, 1), (9, 13, 5)], [(26, 27, 4)]] := by decide

/-- by seat and position: only the second entry of seat 1 -/
example (p k : Nat) :
    tally flopCodes [[(8, 9, 2), (1, 5, 3)], [(12, 16, 1), (13, 9, 5)], [(26, 27, 4)]] p k = tally flopCodes entries p k :=
  tally_swap_cards_at flopCodes entries (fun i j => i == 1 && j == 1) p k

/-- model ranges: Q♠Q♦ ×2, A♥K♥ ×3 | J♠T♠ ×1, Q♥J♥ ×5 -/
def R : List (List (Combo × Nat)) :=
  [[(⟨⟨2, 0⟩, ⟨2, 2⟩⟩, 2), (⟨⟨0, 1⟩, ⟨1, 1⟩⟩, 3)], [(⟨⟨3, 0⟩, ⟨4, 0⟩⟩, 1), (⟨⟨2, 1⟩, ⟨3, 1⟩⟩, 5)]]
/-- what the relabelled ranges hold (spade → heart → diamond → spade), each listed in the opposite order:
A♦K♦ ×3, Q♠Q♥ ×2 (the image Q♥Q♠ of Q♠Q♦ is re-normalised: the two cards change places) | Q♦J♦ ×5, J♥T♥ ×1 -/
def R' : List (List (Combo × Nat)) :=
  [[(⟨⟨0, 2⟩, ⟨1, 2⟩⟩, 3), (⟨⟨2, 0⟩, ⟨2, 1⟩⟩, 2)], [(⟨⟨2, 2⟩, ⟨3, 2⟩⟩, 5), (⟨⟨3, 1⟩, ⟨4, 1⟩⟩, 1)]]

theorem wfR : C02.WfInput flop R := by decide
/-- `R'` differs from the in-place relabelling both in the order of the entries and inside the first pair -/
example : R.map (List.map (relabelCombo σ))
    = [[(⟨⟨2, 0⟩, ⟨2, 1⟩⟩, 2), (⟨⟨0, 2⟩, ⟨1, 2⟩⟩, 3)], [(⟨⟨3, 1⟩, ⟨4, 1⟩⟩, 1), (⟨⟨2, 2⟩, ⟨3, 2⟩⟩, 5)]] := by decide
example : relabelC σ ⟨2, 0⟩ = ⟨2, 1⟩ ∧ relabelC σ ⟨2, 2⟩ = ⟨2, 0⟩ := by decide
example : flop.map (relabelC σ) = [⟨0, 1⟩, ⟨1, 0⟩, ⟨7, 3⟩] := by decide

theorem R'_perm : ∀ i (hi : i < R.length), (R'[i]'(Nat.lt_of_lt_of_eq hi rfl)).Perm (R[i].map (relabelCombo σ)) := by
  decide

theorem C11_suits_model_at_witness (p k : Nat) :
    tally [1, 4, 31] [[(2, 6, 3), (8, 9, 2)], [(10, 14, 5), (13, 17, 1)]] p k
      = tally [0, 6, 31] [[(8, 10, 2), (1, 5, 3)], [(12, 16, 1), (9, 13, 5)]] p k :=
  C11_suits_model σ σ_perm flop R R' wfR rfl R'_perm p k
example : (flop.map (relabelC σ)).map Card.code = [1, 4, 31] ∧ flop.map Card.code = [0, 6, 31]
    ∧ C02.specEntries R' = [[(2, 6, 3), (8, 9, 2)], [(10, 14, 5), (13, 17, 1)]]
    ∧ C02.specEntries R = [[(8, 10, 2), (1, 5, 3)], [(12, 16, 1), (9, 13, 5)]] := by decide

example : C02.WfInput (flop.map (relabelC σ)) R' := wfInput_relabel σ σ_perm flop R R' wfR rfl R'_perm

/-- the rotation "old player 2 takes seat 0, old player 0 seat 1, old player 1 seat 2" — not a neighbour exchange -/
theorem rot_perm : [2, 0, 1].Perm (List.range entries.length) := by decide

theorem C11_players_perm_at_witness (k : Nat) :
    tally flopCodes [[(26, 27, 4)], [(8, 9, 2), (1, 5, 3)], [(12, 16, 1), (9, 13, 5)]] 0 k = tally flopCodes entries 2 k
    ∧ tally flopCodes [[(26, 27, 4)], [(8, 9, 2), (1, 5, 3)], [(12, 16, 1), (9, 13, 5)]] 1 k = tally flopCodes entries 0 k
    ∧ tally flopCodes [[(26, 27, 4)], [(8, 9, 2), (1, 5, 3)], [(12, 16, 1), (9, 13, 5)]] 2 k = tally flopCodes entries 1 k :=
  ⟨C11_players_perm flopCodes entries [2, 0, 1] rot_perm 0 (by decide) k,
   C11_players_perm flopCodes entries [2, 0, 1] rot_perm 1 (by decide) k,
   C11_players_perm flopCodes entries [2, 0, 1] rot_perm 2 (by decide) k⟩
example : [2, 0, 1].map (entries[·]!) = [[(26, 27, 4)], [(8, 9, 2), (1, 5, 3)], [(12, 16, 1), (9, 13, 5)]] := by decide
/-- the rotation as two neighbour exchanges -/
example : applySwaps [1, 0] [0, 1, 2] = [2, 0, 1] ∧ idxAfter [1, 0] 2 = 0 ∧ idxAfter [1, 0] 0 = 1 := by decide
/-- the hypothesis matters: `[2, 0, 0]` is no reordering of three seats -/
example : ¬ [2, 0, 0].Perm (List.range entries.length) := by decide

theorem C11_drain_tally_at_witness :
    ∃ (s₀ : IterState Nat) (sds : List (Showdown Nat)) (sEnd : IterState Nat),
      (Evaluator.new (flop.map some ++ [none, none]) R).intoIter = .ok s₀
      ∧ (∀ limit, sds.length < limit → drainFuel natOps limit s₀ [] = .ok (sds, sEnd))
      ∧ next natOps sEnd = .ok (none, sEnd)
      ∧ ∀ p k, tallyOf sds p k = tally [0, 6, 31] [[(8, 10, 2), (1, 5, 3)], [(12, 16, 1), (9, 13, 5)]] p k :=
  C11_drain_tally_exists natOps flop R wfR

/-- both runs exist, and they tally alike -/
theorem C11_suits_end_to_end_at_witness :
    ∃ (s₀ s₀' : IterState Nat) (sds sds' : List (Showdown Nat)) (sEnd sEnd' : IterState Nat),
      (Evaluator.new (flop.map some ++ [none, none]) R).intoIter = .ok s₀
      ∧ (Evaluator.new ([some ⟨0, 1⟩, some ⟨1, 0⟩, some ⟨7, 3⟩, none, none]) R').intoIter = .ok s₀'
      ∧ drainFuel natOps (sds.length + 1) s₀ [] = .ok (sds, sEnd)
      ∧ drainFuel natOps (sds'.length + 1) s₀' [] = .ok (sds', sEnd')
      ∧ ∀ p k, tallyOf sds' p k = tallyOf sds p k := by
  obtain ⟨s₀, sds, sEnd, h0, hd, _, _⟩ := C11_drain_tally_exists natOps flop R wfR
  obtain ⟨s₀', sds', sEnd', h0', hd', _, _⟩ := C11_drain_tally_exists natOps (flop.map (relabelC σ)) R'
    (wfInput_relabel σ σ_perm flop R R' wfR rfl R'_perm)
  refine ⟨s₀, s₀', sds, sds', sEnd, sEnd', h0, h0', hd _ (by omega), hd' _ (by omega), ?_⟩
  intro p k
  exact C11_suits_end_to_end natOps σ σ_perm flop R R' wfR rfl R'_perm s₀ s₀' h0 h0' _ _ sds sds' sEnd sEnd'
    (hd _ (Nat.lt_succ_self _)) (Nat.lt_succ_self _) (hd' _ (Nat.lt_succ_self _)) (Nat.lt_succ_self _) p k

/-- `tallyOf` evaluated on two hand-made showdowns: seat 1 wins outright once, seats 0 and 1 tie once -/
example : tallyOf ([⟨[], [⟨⟨⟨0, 1⟩, ⟨1, 1⟩⟩, 2473, false⟩, ⟨⟨⟨2, 1⟩, ⟨3, 1⟩⟩, 300, true⟩], 1⟩,
      ⟨[], [⟨⟨⟨0, 1⟩, ⟨1, 1⟩⟩, 7, true⟩, ⟨⟨⟨2, 1⟩, ⟨3, 1⟩⟩, 7, true⟩], 1⟩] : List (Showdown Nat)) 1 1 = 1
    ∧ tallyOf ([⟨[], [⟨⟨⟨0, 1⟩, ⟨1, 1⟩⟩, 2473, false⟩, ⟨⟨⟨2, 1⟩, ⟨3, 1⟩⟩, 300, true⟩], 1⟩,
      ⟨[], [⟨⟨⟨0, 1⟩, ⟨1, 1⟩⟩, 7, true⟩, ⟨⟨⟨2, 1⟩, ⟨3, 1⟩⟩, 7, true⟩], 1⟩] : List (Showdown Nat)) 0 2 = 1
    ∧ tallyOf ([⟨[], [⟨⟨⟨0, 1⟩, ⟨1, 1⟩⟩, 2473, false⟩, ⟨⟨⟨2, 1⟩, ⟨3, 1⟩⟩, 300, true⟩], 1⟩,
      ⟨[], [⟨⟨⟨0, 1⟩, ⟨1, 1⟩⟩, 7, true⟩, ⟨⟨⟨2, 1⟩, ⟨3, 1⟩⟩, 7, true⟩], 1⟩] : List (Showdown Nat)) 0 1 = 0 := by decide

/-! ### the table of `Props/Witness/C03.lean` (the split pot `ps₂`) -/

/-- two winners, each taking one half: exactly one pot -/
example : ∃ sd : Showdown Nat, showdownNew C03.Witness.ps₂ C03.Witness.board C03.Witness.prob = .ok (some sd)
    ∧ winnerLen sd false = .ok 2
    ∧ ((sd.players.filter (·.win)).map fun _ => (1 : Rat) / (2 : Nat)).sum = 1 := by
  obtain ⟨sd, hsd, hp, _⟩ := C03.Witness.C03_some_at_witness₂
  have hw' : winnerLen sd false = .ok 2 := by
    unfold winnerLen
    rw [hp]
    decide
  exact ⟨sd, hsd, hw', (C11_pot_sd C03.Witness.board C03.Witness.ps₂ C03.Witness.prob C03.Witness.wf₂ (by decide)
    C03.RulesWitness.table_nodup₂ sd hsd false 2 hw').2⟩

/-- the bound on the number of flagged players is needed in a release build: 256 players holding the same pair
(a table `WfTable` admits, but whose cards are not pairwise different) all tie, and `winner_len()` wraps to 0 —
no share `1 / 0`; a debug build traps instead -/
def tie256 : Option (Res Nat × Res Nat) :=
  match showdownNew (List.replicate 256 (⟨⟨2, 0⟩, ⟨3, 0⟩⟩ : Combo)) C03.Witness.board (0 : Nat) with
  | .ok (some sd) => some (winnerLen sd false, winnerLen sd true)
  | _ => none
theorem tie256_eval : tie256 = some (.ok 0, .panic) := by
  -- the one evaluation: Q♠J♠ on the witness board is the flush 501; 256 players who evaluate alike all win
  have he : eval7 (sevenCards ⟨⟨2, 0⟩, ⟨3, 0⟩⟩ C03.Witness.board) = .ok 501 := by decide +kernel
  have hp : ∀ q ∈ List.replicate 256 (⟨⟨2, 0⟩, ⟨3, 0⟩⟩ : Combo), q = ⟨⟨2, 0⟩, ⟨3, 0⟩⟩ := fun _ =>
    List.eq_of_mem_replicate
  unfold tie256
  rw [C03.showdownNew_eq_ruled C03.Witness.board (fun _ => 501) _ (0 : Nat)
    (fun q hq => by rw [hp q hq]; decide) (fun q hq => by rw [hp q hq]; exact he) (fun _ _ => by decide)]
  simp only [winnerLen, C03.ruled_const_countP, List.length_replicate]
  decide
example : C03.WfTable C03.Witness.board (List.replicate 256 (⟨⟨2, 0⟩, ⟨3, 0⟩⟩ : Combo)) := by
  refine ⟨by decide, by decide, by decide, ?_⟩
  intro p hp
  rw [List.eq_of_mem_replicate hp]
  decide

end ModelWitness

end EspadaVerif.C11
