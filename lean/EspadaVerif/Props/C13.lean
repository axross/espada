/-
C13 — Card, rank and suit encodings are mutually inverse and order-consistent.

Every statement is over a finite domain whose data (`Gen.*`) are regenerated from the Rust source
on each run; the proofs are kernel evaluations (`decide`) of the tables, lifted to the universally quantified
form, and what follows from them by reading the model (two-character texts, slices of the rank / suit table).
-/
import EspadaVerif.Model.Pair
import EspadaVerif.Lemmas.CardFacts
import EspadaVerif.Lemmas.AsciiSlices

namespace EspadaVerif.C13
open Gen

theorem mem_allCards (c : Card) (h : c.valid = true) : c ∈ allCards :=
  List.mem_map.mpr ⟨c.code, List.mem_range.mpr (Card.code_lt c h), Card.ofCode_code c h⟩

theorem valid_of_mem_allCards (c : Card) (h : c ∈ allCards) : c.valid = true := by
  obtain ⟨n, hn, rfl⟩ := List.mem_map.mp h
  exact Card.valid_ofCode n (List.mem_range.mp hn)

theorem allCards_nodup : allCards.Nodup := by
  refine Lemmas.nodup_of_map Card.code ?_
  rw [allCards, List.map_map, (funext Card.code_ofCode : Card.code ∘ Card.ofCode = id), List.map_id]
  exact List.nodup_range

/-- a conversion that a reader undoes on every element of a list keeps the list free of repetition -/
theorem nodup_map_of_roundtrip {α β : Type} {f : α → β} {g : β → Res α} {l : List α}
    (h : ∀ a ∈ l, g (f a) = .ok a) (hl : l.Nodup) : (l.map f).Nodup :=
  Lemmas.nodup_map_on (fun a ha b hb e => Res.ok.inj ((h a ha).symm.trans (e ▸ h b hb))) hl

/-- Ranks are declared ace … deuce and `u8::from` numbers them 0–12 in that same (derived-`Ord`) order. -/
theorem rank_numbering :
    rankNames = ["Ace", "King", "Queen", "Jack", "Ten", "Nine", "Eight", "Seven", "Six", "Five",
                 "Four", "Trey", "Deuce"]
    ∧ (∀ r, r < 13 → rankU8 r = r)
    ∧ "Ord" ∈ rankDerives ∧ "PartialOrd" ∈ rankDerives ∧ "Eq" ∈ rankDerives ∧ "Hash" ∈ rankDerives := by
  decide

theorem suit_numbering :
    suitNames = ["Spade", "Heart", "Diamond", "Club"]
    ∧ (∀ s, s < 4 → suitU8 s = s)
    ∧ "Ord" ∈ suitDerives ∧ "PartialOrd" ∈ suitDerives ∧ "Eq" ∈ suitDerives ∧ "Hash" ∈ suitDerives := by
  decide

/-- `next` is +1 on the code and `None` exactly at deuce; `prev` is −1 and `None` exactly at ace. -/
theorem rank_next_prev (r : Nat) (hr : r < 13) :
    rankNext r = (if r + 1 < 13 then some (r + 1) else none)
    ∧ rankPrev r = (if 0 < r then some (r - 1) else none) := by
  revert r
  decide

/-- the derived card order is lexicographic (rank, then suit) and `Card` derives the full order/hash set -/
theorem card_order_fields :
    cardFields = ["Rank", "Suit"] ∧ "Ord" ∈ cardDerives ∧ "PartialOrd" ∈ cardDerives
    ∧ "Eq" ∈ cardDerives ∧ "PartialEq" ∈ cardDerives ∧ "Hash" ∈ cardDerives := by decide

theorem rank_text (r : Nat) (hr : r < 13) :
    rankOfChar (rankChar r) = some r ∧ rankChar r < 128 := by
  revert r
  decide

theorem suit_text (s : Nat) (hs : s < 4) :
    suitOfChar (suitChar s) = some s ∧ suitChar s < 128 := by
  revert s
  decide

/-- a hit of a `match c { 'x' => Ok(V), .. }` is one of its arms -/
theorem armLookup_mem {arms : List (Nat × Nat)} {c v : Nat} (h : armLookup arms c = some v) : (c, v) ∈ arms := by
  induction arms with
  | nil => cases h
  | cons a arms ih =>
    obtain ⟨k, w⟩ := a
    rw [armLookup] at h
    split at h
    · next hk => cases h; rw [hk]; exact List.mem_cons_self
    · exact List.mem_cons_of_mem _ (ih h)

/-- what parses as a rank is the (ASCII) letter of that rank: read off the 13 arms -/
theorem rankOfChar_some {b r : Nat} (e : rankOfChar b = some r) : b < 128 ∧ r < 13 ∧ rankChar r = b :=
  (by decide : ∀ a ∈ rankOfCharArms, a.1 < 128 ∧ a.2 < 13 ∧ rankChar a.2 = a.1) _ (armLookup_mem e)

theorem suitOfChar_some {b s : Nat} (e : suitOfChar b = some s) : b < 128 ∧ s < 4 ∧ suitChar s = b :=
  (by decide : ∀ a ∈ suitOfCharArms, a.1 < 128 ∧ a.2 < 4 ∧ suitChar a.2 = a.1) _ (armLookup_mem e)

/-- the bit of a card is its wire code: bit `k` is the word of card `k`, and reads back as that card -/
theorem bit_ofCode (k : Nat) (hk : k < 52) :
    u64OfCard (Card.ofCode k) = 2 ^ k ∧ cardOfU64 (2 ^ k) = .ok (Card.ofCode k) := by
  revert k
  decide

/-- each card converts to a single bit among the low 52 and back to itself -/
theorem card_bits_roundtrip (c : Card) (h : c.valid = true) :
    cardOfU64 (u64OfCard c) = .ok c ∧ ∃ k, k < 52 ∧ u64OfCard c = 2 ^ k := by
  obtain ⟨h1, h2⟩ := bit_ofCode c.code (Card.code_lt c h)
  rw [Card.ofCode_code c h] at h1 h2
  exact ⟨h1 ▸ h2, c.code, Card.code_lt c h, h1⟩

theorem card_bits_injective : (allCards.map u64OfCard).Nodup :=
  nodup_map_of_roundtrip (fun c hc => (card_bits_roundtrip c (valid_of_mem_allCards c hc)).1) allCards_nodup

theorem card_bits_inj (a b : Card) (ha : a.valid = true) (hb : b.valid = true)
    (h : u64OfCard a = u64OfCard b) : a = b :=
  Res.ok.inj ((card_bits_roundtrip a ha).1.symm.trans (h ▸ (card_bits_roundtrip b hb).1))

/-- each of the 52 low single-bit words converts to a card and back to itself; 0 panics -/
theorem bits_card_roundtrip (k : Nat) (hk : k < 52) :
    ∃ c, cardOfU64 (2 ^ k) = .ok c ∧ c.valid = true ∧ u64OfCard c = 2 ^ k :=
  ⟨Card.ofCode k, (bit_ofCode k hk).2, Card.valid_ofCode k hk, (bit_ofCode k hk).1⟩

theorem zero_word_panics : cardOfU64 0 = .panic := by decide

/-- the canonical spellings 'As' … '2c' -/
theorem card_text_ends : showCard ⟨0, 0⟩ = [65, 115] ∧ showCard ⟨12, 3⟩ = [50, 99] := by decide

/-- `Card::from_str` on two ASCII bytes: the `Rank` arm of the first and the `Suit` arm of the second, or `Err` -/
theorem parseCard_two (b₁ b₂ : Nat) (h₁ : b₁ < 128) (h₂ : b₂ < 128) :
    parseCard [b₁, b₂] = (match rankOfChar b₁, suitOfChar b₂ with
      | some r, some s => .ok ⟨r, s⟩
      | _, _ => .err) := by
  have A : AsciiText [b₁, b₂] 2 := ⟨Nat.le_refl _, by simp [h₁, h₂]⟩
  simp only [parseCard, isAscii, List.all_cons, List.all_nil, List.length_cons, List.length_nil, h₁, h₂, decide_true,
    slice_one_asc A, token_slices, parseRank, parseSuit, firstChar]
  cases rankOfChar b₁ <;> cases suitOfChar b₂ <;> rfl

theorem card_text_roundtrip (c : Card) (h : c.valid = true) :
    parseCard (showCard c) = .ok c ∧ (showCard c).length = 2 ∧ isAscii (showCard c) = true := by
  rw [Card.valid_iff] at h
  obtain ⟨hr, hr'⟩ := rank_text c.rank h.1
  obtain ⟨hs, hs'⟩ := suit_text c.suit h.2
  refine ⟨?_, rfl, by simp [isAscii, showCard, hr', hs']⟩
  rw [showCard, parseCard_two _ _ hr' hs', hr, hs]

theorem card_text_distinct : (allCards.map showCard).Nodup :=
  nodup_map_of_roundtrip (fun c hc => (card_text_roundtrip c (valid_of_mem_allCards c hc)).1) allCards_nodup

/-- any two-character ASCII text that parses as a card *is* that card's text (so every other
two-character ASCII text is rejected); parsing such a text does not panic. -/
theorem two_char_ascii (b₁ b₂ : Nat) (h₁ : b₁ < 128) (h₂ : b₂ < 128) :
    parseCard [b₁, b₂] ≠ .panic ∧
    ∀ c, parseCard [b₁, b₂] = .ok c → c.valid = true ∧ showCard c = [b₁, b₂] := by
  rw [parseCard_two b₁ b₂ h₁ h₂]
  cases hr : rankOfChar b₁ <;> cases hs : suitOfChar b₂ <;> simp
  rename_i r s
  have := (rankOfChar_some hr).2
  have := (suitOfChar_some hs).2
  simp [Card.valid_iff, showCard, *]

/-- every one-character text (and the empty text) is rejected -/
theorem short_text_rejected : parseCard [] = .err ∧ ∀ b, parseCard [b] = .err := by
  refine ⟨by decide, fun b => ?_⟩
  simp [parseCard]

/-- slicing the identity table `0, 1, …, n-1`: the run from `a` to the exclusive end `e` (`b` for `a..b`, `b + 1` for
`a..=b`), or the slice panic when `a` lies beyond it -/
theorem sliceTbl_range (n a b : Nat) (hb : b < n) (incl : Bool) :
    sliceTbl (List.range n) a b incl
      = if a ≤ (if incl then b + 1 else b) then .ok (List.range' a ((if incl then b + 1 else b) - a)) else .panic := by
  have run : ∀ e, e ≤ n → ((List.range n).drop a).take (e - a) = List.range' a (e - a) := by
    intro e he
    rw [List.range_eq_range', List.drop_range', List.take_range'_of_length_ge (by omega), Nat.mul_one, Nat.zero_add]
  cases incl <;> simp [sliceTbl, hb, Nat.le_of_lt hb, run _ (Nat.le_of_lt hb), run _ hb]

/-- `RANKS` / `SUITS` are the declaration indexes in order, and `u8::from` is the declaration index: a range is a slice of
the identity table -/
theorem rankRange_slice (a b : Nat) (ha : a < 13) (hb : b < 13) (incl : Bool) :
    rankRange a b incl
      = if a ≤ (if incl then b + 1 else b) then .ok (List.range' a ((if incl then b + 1 else b) - a)) else .panic := by
  rw [rankRange, rank_numbering.2.1 a ha, rank_numbering.2.1 b hb, (by decide : rangeRanks = List.range 13),
    sliceTbl_range 13 a b hb]

theorem suitRange_slice (a b : Nat) (ha : a < 4) (hb : b < 4) (incl : Bool) :
    suitRange a b incl
      = if a ≤ (if incl then b + 1 else b) then .ok (List.range' a ((if incl then b + 1 else b) - a)) else .panic := by
  rw [suitRange, suit_numbering.2.1 a ha, suit_numbering.2.1 b hb, (by decide : rangeSuits = List.range 4),
    sliceTbl_range 4 a b hb]

theorem rank_range_run (a b : Nat) (ha : a < 13) (hb : b < 13) (hab : a ≤ b) :
    rankRange a b false = .ok (List.range' a (b - a))
    ∧ rankRange a b true = .ok (List.range' a (b + 1 - a)) :=
  ⟨(rankRange_slice a b ha hb false).trans (if_pos hab),
   (rankRange_slice a b ha hb true).trans (if_pos (Nat.le_succ_of_le hab))⟩

theorem rank_range_all : rankRangeAll = .ok (List.range 13) := by decide

theorem suit_range_run (a b : Nat) (ha : a < 4) (hb : b < 4) (hab : a ≤ b) :
    suitRange a b false = .ok (List.range' a (b - a))
    ∧ suitRange a b true = .ok (List.range' a (b + 1 - a)) :=
  ⟨(suitRange_slice a b ha hb false).trans (if_pos hab),
   (suitRange_slice a b ha hb true).trans (if_pos (Nat.le_succ_of_le hab))⟩

theorem suit_range_all : suitRangeAll = .ok (List.range 4) := by decide

/-- non-vacuity: the hypotheses are met by concrete cards -/
example : (⟨3, 2⟩ : Card).valid = true ∧ u64OfCard ⟨3, 2⟩ = 2 ^ 14 ∧ showCard ⟨3, 2⟩ = [74, 100] := by decide

end EspadaVerif.C13
