/-
C08 / C02 / C09 on ranges that hold DEGENERATE pairs (a pair of two equal cards).

`CardPair::new(c, c)` and `"AsAs".parse::<CardPair>()` succeed, and `HandRange: FromIterator<CardPair>` /
`FromIterator<(CardPair, f32)>` accept such pairs, so they reach `FlopExhaustiveEvaluator` through the public
API.  `C02.WfInput` demands the strict `Card.lt fst snd`, so these inputs lie outside `C02_refines`, `C04_*`,
`C08_total`, `C09_range_total`.  Here the hypothesis is `WfInputLe` (`Card.le fst snd`: what `CardPair::new`
guarantees for ANY two cards), and refinement and totality hold verbatim (`C02_refines_le`, `C08_total_le`).

On the specification side nothing has to change: `specEntries` maps a pair of equal cards to a pair of equal
codes and `Deal.legal` asks for all 5 + 2n codes to be different, so a deal choosing such a pair is not legal
(`legal_degenerate`) and is absent from `Spec.deals`; the iterator skips it because the second `used.insert` of
that player returns `false` (stated on its own as `IterLemmas.attempt_degenerate`; the proofs go through
`attempt_out`, which covers every choice of valid cards).  A player holding only degenerate pairs therefore
makes the enumeration empty by skipping every raw position up to the end of the scope, not by stopping early as
for an empty range (`C08_degenerate_skipped`).  `C09.C09_pair_total`: a parsed range with a pair from
`parsePair` (possibly degenerate) inserted can be evaluated without panic.

The ORDER of the two cards of a combo plays no role at all: the iterator lemmas (`Lemmas/IterScope.lean`:
`refines`, `run_scope`) assume only that the cards are valid.  `fst ≠ snd` is needed in one place
(`IterLemmas.wfTable`, for `C03.WfTable`), on the branch where the deal is materialised, and there it follows
from the flag of `pickLoop`.
-/
import EspadaVerif.Lemmas.IterScope
import EspadaVerif.Lemmas.Decide
import EspadaVerif.Props.C09
import EspadaVerif.Props.C14
import EspadaVerif.Props.Witness.C09


namespace EspadaVerif.C08
open Spec C02 EspadaVerif.IterLemmas

variable {W : Type}

/-- `C02.WfInput` with `Card.le` in place of `Card.lt`: a flop of three distinct valid cards; every entry is
a combo of two valid cards, the first not after the second — EQUAL CARDS ALLOWED; a player's list has no
duplicate combo.  Lists may be empty and of any length. -/
structure WfInputLe (flop : List Card) (ranges : List (List (Combo × W))) : Prop where
  flop_len : flop.length = 3
  flop_nodup : flop.Nodup
  flop_valid : ∀ c ∈ flop, c.valid = true
  combos : ∀ es ∈ ranges, ∀ e ∈ es, e.1.fst.valid = true ∧ e.1.snd.valid = true ∧ Card.le e.1.fst e.1.snd = true
  nodup : ∀ es ∈ ranges, (es.map (·.1)).Nodup

instance WfInputLe.instDecidable (flop : List Card) (ranges : List (List (Combo × W))) :
    Decidable (WfInputLe flop ranges) :=
  decidable_of_iff (flop.length = 3 ∧ flop.Nodup ∧ (∀ c ∈ flop, c.valid = true)
      ∧ (∀ es ∈ ranges, ∀ e ∈ es, e.1.fst.valid = true ∧ e.1.snd.valid = true ∧ Card.le e.1.fst e.1.snd = true)
      ∧ ∀ es ∈ ranges, (es.map (·.1)).Nodup)
    ⟨fun ⟨h₁, h₂, h₃, h₄, h₅⟩ => ⟨h₁, h₂, h₃, h₄, h₅⟩, fun ⟨h₁, h₂, h₃, h₄, h₅⟩ => ⟨h₁, h₂, h₃, h₄, h₅⟩⟩

theorem combo_le_of_lt {c : Combo} (h : c.fst.valid = true ∧ c.snd.valid = true ∧ Card.lt c.fst c.snd = true) :
    c.fst.valid = true ∧ c.snd.valid = true ∧ Card.le c.fst c.snd = true :=
  ⟨h.1, h.2.1, Card.le_of_lt h.2.2⟩

theorem WfInput.toLe {flop : List Card} {ranges : List (List (Combo × W))} (h : WfInput flop ranges) :
    WfInputLe flop ranges :=
  ⟨h.flop_len, h.flop_nodup, h.flop_valid, fun es hes e he => combo_le_of_lt (h.combos es hes e he), h.nodup⟩

theorem WfInputLe.wfFlop {flop : List Card} {ranges : List (List (Combo × W))} (h : WfInputLe flop ranges) :
    WfFlop flop := ⟨h.flop_len, h.flop_nodup, h.flop_valid⟩

theorem WfInputLe.rv {flop : List Card} {ranges : List (List (Combo × W))} (h : WfInputLe flop ranges) :
    RV ranges := fun es hes e he => ⟨(h.combos es hes e he).1, (h.combos es hes e he).2.1⟩

/-- the specification's deal whose choice holds a combo of two equal cards is not legal (no validity
needed: equal cards have equal codes) -/
theorem legal_degenerate (flop : List Card) (p : Nat × Nat) (ch : List (Combo × W))
    (e : Combo × W) (he : e ∈ ch) (hd : e.1.fst = e.1.snd) :
    Deal.legal (flop.map Card.code) (dealOf flop p ch) = false := by
  rw [← Bool.not_eq_true, legal_dealOf, List.map_append]
  exact fun h => holes_nodup_ne ch (Lemmas.nodup_of_map Card.code (List.nodup_append.mp h).2.1) e he hd

/-- a player who holds only combos of two equal cards: the specification has no deal -/
theorem deals_degenerate (flop : List Card) (ranges : List (List (Combo × W))) (a b : Nat × Nat)
    (es : List (Combo × W)) (hes : es ∈ ranges) (hdeg : ∀ e ∈ es, e.1.fst = e.1.snd) :
    deals (flop.map Card.code) (specEntries ranges) a b = [] := by
  rw [List.eq_nil_iff_forall_not_mem]
  intro d hd
  obtain ⟨p, _, ch, hch, _, hleg⟩ := eq_dealOf_of_mem_deals hd
  obtain ⟨e, he, hee⟩ := product_hits hch es hes
  rw [legal_degenerate flop p ch e he (hdeg e hee)] at hleg
  cases hleg

/-- **C02 / C04 (refinement), degenerate pairs allowed.**  The statement of `C02.C02_refines` with
`WfInputLe`.  (A choice that contains a pair of equal cards is not a legal deal: see `legal_degenerate`.) -/
theorem C02_refines_le (ops : WOps W) (flop : List Card) (ranges : List (List (Combo × W))) (a b : Nat × Nat)
    (h : WfInputLe flop ranges) (hs : ValidScope a b) :
    ∃ s₀ : IterState W, (mkEvaluator flop ranges a b).intoIter = .ok s₀ ∧
    ∃ (sds : List (Showdown W)) (sEnd : IterState W),
      (∀ limit, sds.length < limit → drainFuel ops limit s₀ [] = .ok (sds, sEnd))
      ∧ (deals (flop.map Card.code) (specEntries ranges) a b).map (showdownOfDeal ops flop)
          = sds.map (fun sd => .ok (some sd))
      ∧ next ops sEnd = .ok (none, sEnd) :=
  refines ops flop ranges a b h.wfFlop h.rv hs

/-- `C02.C02_payload` with `WfInputLe` -/
theorem C02_payload_le (ops : WOps W) (flop : List Card) (ranges : List (List (Combo × W))) (a b : Nat × Nat)
    (h : WfInputLe flop ranges) (d : Deal W) (hd : d ∈ deals (flop.map Card.code) (specEntries ranges) a b) :
    ∃ sd : Showdown W, showdownOfDeal ops flop d = .ok (some sd)
      ∧ sd.board = flop ++ [Card.ofCode d.turn, Card.ofCode d.river]
      ∧ sd.players.map (·.hole) = d.choice.map (fun c => (⟨Card.ofCode c.1, Card.ofCode c.2.1⟩ : Combo))
      ∧ sd.prob = d.choice.foldl (fun p c => ops.mul p c.2.2) ops.one
      ∧ (flop ++ [Card.ofCode d.turn, Card.ofCode d.river] ++ sd.players.flatMap (fun p => [p.hole.fst, p.hole.snd])).Nodup :=
  payload ops flop ranges a b h.wfFlop h.rv d hd

/-- **C08 (total), degenerate pairs allowed.**  The statement of `C08_total` with `WfInputLe`. -/
theorem C08_total_le (ops : WOps W) (flop : List Card) (ranges : List (List (Combo × W))) (a b : Nat × Nat)
    (h : WfInputLe flop ranges) (hs : ValidScope a b) :
    ∃ s₀ : IterState W, (mkEvaluator flop ranges a b).intoIter = .ok s₀ ∧
      ∀ limit, ∃ sds s', drainFuel ops limit s₀ [] = .ok (sds, s') :=
  scope_total ops h.wfFlop h.rv hs

/-- **C08 (degenerate range).**  A player whose range consists only of pairs of two equal cards (beside any
other ranges) makes the enumeration empty: the specification has no legal deal, and the drain returns
normally with no showdown, after which `next` keeps returning `None`.  When no range is empty (in particular
the degenerate one is not) the iterator gets there by SKIPPING every raw position: its final state stands at
the end `b` of the scope.  (`es ≠ []` is not needed for the emptiness: an empty range ends the enumeration
too, by the early exit of `C08_empty`.) -/
theorem C08_degenerate_skipped (ops : WOps W) (flop : List Card) (ranges : List (List (Combo × W))) (a b : Nat × Nat)
    (h : WfInputLe flop ranges) (hs : ValidScope a b)
    (es : List (Combo × W)) (hes : es ∈ ranges) (hdeg : ∀ e ∈ es, e.1.fst = e.1.snd) :
    deals (flop.map Card.code) (specEntries ranges) a b = [] ∧
    ∃ s₀ : IterState W, (mkEvaluator flop ranges a b).intoIter = .ok s₀ ∧
    ∃ sEnd : IterState W,
      (∀ limit, drainFuel ops (limit + 1) s₀ [] = .ok ([], sEnd))
      ∧ next ops sEnd = .ok (none, sEnd)
      ∧ ((∀ es' ∈ ranges, es' ≠ []) → sEnd.t = b.1 ∧ sEnd.r = b.2 ∧ sEnd.entries = ranges) := by
  have hd := deals_degenerate flop ranges a b es hes hdeg
  obtain ⟨sEnd, hrun, hend⟩ := run_scope ops h.wfFlop h.rv hs
  obtain ⟨h1, h3⟩ := hrun.drain
  rw [outsOf_filterMap, drainOf_eq_map ops a b h.wfFlop h.rv, hd] at h1
  refine ⟨hd, _, intoIter_eq flop ranges a b h.wfFlop, sEnd, fun limit => h1 (limit + 1) (by simp), h3, fun hne => ?_⟩
  rw [hend hne]
  exact ⟨rfl, rfl, rfl⟩

namespace DegenerateWitness
open EspadaVerif.Witness

/-- A♠ K♦ 7♣ -/
def flop : List Card := [⟨0, 0⟩, ⟨1, 2⟩, ⟨7, 3⟩]
/-- player 1: A♥A♥ (degenerate, weight 7) and Q♠Q♥ (weight 2); player 2: J♠T♠ (weight 3) -/
def rangesDeg : List (List (Combo × Nat)) :=
  [[(⟨⟨0, 1⟩, ⟨0, 1⟩⟩, 7), (⟨⟨2, 0⟩, ⟨2, 1⟩⟩, 2)], [(⟨⟨3, 0⟩, ⟨4, 0⟩⟩, 3)]]
/-- the same with the degenerate entry removed -/
def rangesClean : List (List (Combo × Nat)) :=
  [[(⟨⟨2, 0⟩, ⟨2, 1⟩⟩, 2)], [(⟨⟨3, 0⟩, ⟨4, 0⟩⟩, 3)]]
/-- player 1 holds ONLY degenerate pairs: A♥A♥ and A♠A♠ (the second even sits on the flop) -/
def rangesOnly : List (List (Combo × Nat)) :=
  [[(⟨⟨0, 1⟩, ⟨0, 1⟩⟩, 7), (⟨⟨0, 0⟩, ⟨0, 0⟩⟩, 5)], [(⟨⟨3, 0⟩, ⟨4, 0⟩⟩, 3)]]
def A : Nat × Nat := (46, 47)
def B : Nat × Nat := (48, 49)

/-- the model run: build the iterator, drain it (at most `limit` showdowns), keep the showdowns -/
def run (rs : List (List (Combo × Nat))) (a b : Nat × Nat) (limit : Nat) : Res (List (Showdown Nat)) :=
  match (mkEvaluator flop rs a b).intoIter with
  | .ok s =>
    match drainFuel natOps limit s [] with
    | .ok (l, _) => .ok l
    | .err => .err
    | .panic => .panic
  | .err => .err
  | .panic => .panic

/-- `run` on an evaluator whose drain is known.  (About variables on purpose: with the concrete evaluator in
the goal, `simp only [run, h0, ..]` makes the kernel evaluate the whole enumeration.) -/
theorem run_eq {rs : List (List (Combo × Nat))} {a b : Nat × Nat} {limit : Nat} {s₀ sEnd : IterState Nat}
    {l : List (Showdown Nat)} (h0 : (mkEvaluator flop rs a b).intoIter = .ok s₀)
    (hd : drainFuel natOps limit s₀ [] = .ok (l, sEnd)) : run rs a b limit = .ok l := by
  simp only [run, h0, hd]

theorem wfDeg : WfInputLe flop rangesDeg := by decide
theorem wfOnly : WfInputLe flop rangesOnly := by decide
theorem scope_AB : ValidScope A B := by decide

/-- these inputs are outside the hypothesis `WfInput` of `C02_refines` -/
example : ¬ WfInput flop rangesDeg := fun h =>
  absurd (h.combos _ List.mem_cons_self _ List.mem_cons_self).2.2 (by decide)

theorem C02_refines_le_at_witness :
    ∃ s₀ : IterState Nat, (mkEvaluator flop rangesDeg (0, 1) (48, 49)).intoIter = .ok s₀ ∧
    ∃ (sds : List (Showdown Nat)) (sEnd : IterState Nat),
      (∀ limit, sds.length < limit → drainFuel natOps limit s₀ [] = .ok (sds, sEnd))
      ∧ (deals (flop.map Card.code) (specEntries rangesDeg) (0, 1) (48, 49)).map (showdownOfDeal natOps flop)
          = sds.map (fun sd => .ok (some sd))
      ∧ next natOps sEnd = .ok (none, sEnd) :=
  C02_refines_le natOps flop rangesDeg (0, 1) (48, 49) wfDeg ValidScope.full

theorem C08_total_le_at_witness :
    ∃ s₀ : IterState Nat, (mkEvaluator flop rangesDeg (0, 1) (48, 49)).intoIter = .ok s₀ ∧
      ∀ limit, ∃ sds s', drainFuel natOps limit s₀ [] = .ok (sds, s') :=
  C08_total_le natOps flop rangesDeg (0, 1) (48, 49) wfDeg ValidScope.full

/-- **the model run on the small scope** (the last three positions; turn and river among 2♥ 2♦ 2♣): with the
degenerate entry A♥A♥ the drain is the drain of the input without it — three showdowns, the weight 7 of the
degenerate entry never shows — evaluated by the kernel with no use of the theorems -/
example : run rangesDeg A B 20 = run rangesClean A B 20
    ∧ (match run rangesDeg A B 20 with
       | .ok sds => sds.map (fun sd => (sd.board.drop 3, sd.players.map (·.hole), sd.prob))
       | _ => [])
      = [([⟨12, 1⟩, ⟨12, 2⟩], [⟨⟨2, 0⟩, ⟨2, 1⟩⟩, ⟨⟨3, 0⟩, ⟨4, 0⟩⟩], 6),
         ([⟨12, 1⟩, ⟨12, 3⟩], [⟨⟨2, 0⟩, ⟨2, 1⟩⟩, ⟨⟨3, 0⟩, ⟨4, 0⟩⟩], 6),
         ([⟨12, 2⟩, ⟨12, 3⟩], [⟨⟨2, 0⟩, ⟨2, 1⟩⟩, ⟨⟨3, 0⟩, ⟨4, 0⟩⟩], 6)] := by decide +kernel

/-- the specification on the same scope: the three deals that choose Q♠Q♥; none chooses A♥A♥ (codes 1, 1) -/
example : (deals (flop.map Card.code) (specEntries rangesDeg) A B).map (fun d => (d.turn, d.river, d.choice))
    = [(49, 50, [(8, 9, 2), (12, 16, 3)]), (49, 51, [(8, 9, 2), (12, 16, 3)]), (50, 51, [(8, 9, 2), (12, 16, 3)])] := by
  rw [deals_of_positions (a := A) (b := B) positions_last3]
  decide +kernel

/-- closed consequence of `C02_refines_le` on the small scope, compared with the kernel run -/
example : ∃ sds : List (Showdown Nat), run rangesDeg A B 20 = .ok sds
    ∧ (deals (flop.map Card.code) (specEntries rangesDeg) A B).map (showdownOfDeal natOps flop)
        = sds.map (fun sd => .ok (some sd)) := by
  obtain ⟨s₀, h0, sds, sEnd, hdrain, hspec, _⟩ := C02_refines_le natOps flop rangesDeg A B wfDeg scope_AB
  have hlen : sds.length = 3 := by
    have := congrArg List.length hspec
    simp only [List.length_map] at this
    rw [← this, deals_of_positions (a := A) (b := B) positions_last3]
    decide +kernel
  exact ⟨sds, run_eq h0 (hdrain 20 (by omega)), hspec⟩

theorem C08_degenerate_skipped_at_witness :
    deals (flop.map Card.code) (specEntries rangesOnly) (0, 1) (48, 49) = [] ∧
    ∃ s₀ : IterState Nat, (mkEvaluator flop rangesOnly (0, 1) (48, 49)).intoIter = .ok s₀ ∧
    ∃ sEnd : IterState Nat,
      (∀ limit, drainFuel natOps (limit + 1) s₀ [] = .ok ([], sEnd))
      ∧ next natOps sEnd = .ok (none, sEnd)
      ∧ ((∀ es' ∈ rangesOnly, es' ≠ []) → sEnd.t = (48, 49).1 ∧ sEnd.r = (48, 49).2 ∧ sEnd.entries = rangesOnly) :=
  C08_degenerate_skipped natOps flop rangesOnly (0, 1) (48, 49) wfOnly ValidScope.full
    [(⟨⟨0, 1⟩, ⟨0, 1⟩⟩, 7), (⟨⟨0, 0⟩, ⟨0, 0⟩⟩, 5)] (by decide) (by decide)

/-- closed consequence on the FULL scope (1176 positions × 2 choices, all skipped): the run returns no showdown -/
theorem degenerate_run_full (limit : Nat) : run rangesOnly (0, 1) (48, 49) (limit + 1) = .ok [] := by
  obtain ⟨_, s₀, h0, sEnd, hdrain, _, _⟩ := C08_degenerate_skipped_at_witness
  exact run_eq h0 (hdrain limit)

/-- the same on the small scope by running the model in the kernel; the iterator ends at `B` after skipping
3 positions × 2 choices (an empty range would have left it at `A`) -/
example : (match (mkEvaluator flop rangesOnly A B).intoIter with
    | .ok s =>
      match drainFuel natOps 5 s [] with
      | .ok (l, s') => some (l.length, s'.t, s'.r)
      | _ => none
    | _ => none) = some (0, 48, 49) := by decide +kernel

end DegenerateWitness

end EspadaVerif.C08

namespace EspadaVerif.C09
open RangeAux

variable {W : Type}

/-- `"AsAs".parse::<CardPair>()` succeeds and is the pair (A♠, A♠) -/
example : parsePair [65, 115, 65, 115] = .ok ⟨⟨0, 0⟩, ⟨0, 0⟩⟩ := by decide

/-- **C09 (a parsed pair beside parsed ranges).**  Take a range parsed from any text, insert (with any
weight) a pair obtained from `CardPair::from_str` — which may be a pair of two equal cards — and hand the
result to the evaluator beside any other ranges of the same kind: for every flop of three distinct cards,
every valid scope and every limit the enumeration returns normally (no panic, no fuel exhaustion). -/
theorem C09_pair_total (wt : WText W) (ops : WOps W) (sp : Bytes) (cp : Combo) (hp : parsePair sp = .ok cp) (w : W)
    (s : Bytes) (r : HandRange W) (h : parseRange wt s = .ok r)
    (flop : List Card) (hf : flop.length = 3 ∧ flop.Nodup ∧ ∀ c ∈ flop, c.valid = true)
    (others : List (List (Combo × W))) (ho : C08.WfInputLe flop others) (a b : Nat × Nat) (hs : C02.ValidScope a b) :
    ∃ s₀ : IterState W,
      (C02.mkEvaluator flop (HandRange.contents (HandRange.insert r cp w) :: others) a b).intoIter = .ok s₀ ∧
        ∀ limit, ∃ sds s', drainFuel ops limit s₀ [] = .ok (sds, s') := by
  obtain ⟨c₁, c₂, h₁, h₂, rfl⟩ := C14.parsePair_ok hp
  refine C08.C08_total_le ops flop _ a b ⟨hf.1, hf.2.1, hf.2.2, ?_, ?_⟩ hs
  · refine List.forall_mem_cons.mpr ⟨fun e he => ?_, ho.combos⟩
    rcases List.mem_cons.mp (mem_contents _ e he) with rfl | hm
    · exact C14.mkPair_le c₁ c₂ h₁ h₂
    · exact C08.combo_le_of_lt (parseRange_comboOk wt s r h e hm)
  · exact List.forall_mem_cons.mpr ⟨contents_nodup _, ho.nodup⟩

/-- instance: the range text `AKs,7d7c:0.5` of `Witness/C09.lean`, the pair text `AhAh` (degenerate) inserted
at weight 0.5, a second player holding Q♠Q♥, the flop A♠ K♦ 7♣, the last three positions -/
theorem C09_pair_total_at_witness :
    ∃ s₀ : IterState Witness.Wt,
      (C02.mkEvaluator Witness.flop
        (HandRange.contents (HandRange.insert Witness.r₀ ⟨⟨0, 1⟩, ⟨0, 1⟩⟩ .half) :: Witness.others)
        Witness.A Witness.B).intoIter = .ok s₀ ∧
        ∀ limit, ∃ sds s', drainFuel Witness.wtOps limit s₀ [] = .ok (sds, s') :=
  C09_pair_total Witness.wtText Witness.wtOps [65, 104, 65, 104] ⟨⟨0, 1⟩, ⟨0, 1⟩⟩ (by decide) .half
    Witness.txt Witness.r₀ Witness.txt_parses Witness.flop Witness.flop_ok Witness.others
    (C08.WfInput.toLe Witness.others_ok) Witness.A Witness.B Witness.scope_ok

/-- cross-check by running the model: the history has no repeated key (so `contents` is the history itself);
over the last three positions the drain returns normally with 3 positions × 2 legal combos of the first
player (A♥K♥, A♣K♣) — exactly what `Witness/C09.lean` finds without the degenerate entry -/
example :
    (match (C02.mkEvaluator Witness.flop
        (((⟨⟨0, 1⟩, ⟨0, 1⟩⟩, Witness.Wt.half) :: Witness.r₀) :: Witness.others) Witness.A Witness.B).intoIter with
     | .ok s =>
       match drainFuel Witness.wtOps 50 s [] with
       | .ok (sds, _) => some sds.length
       | _ => none
     | _ => none) = some 6 := by decide +kernel

end EspadaVerif.C09
