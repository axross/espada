/-
C14 — "a range keyed by pairs can never hold the same combo twice", as one theorem.

`Props/C14.lean` shows that both card orders build the same key (`pair_canonical`);
`Lemmas/RangeAux.lean` shows that the contents of a range (any insert history of the hash map) have
pairwise different keys (`contents_nodup`).  Here the two are combined: inserting a combo under one card
order and then under the other leaves exactly one entry for it, carrying the later weight; and, for any
history whatsoever, no key occurs twice in the contents.
-/
import EspadaVerif.Props.C14
import EspadaVerif.Lemmas.RangeAux

namespace EspadaVerif.C14

variable {W : Type}

theorem contents_insert_filter (r : HandRange W) (k : Combo) (w : W) :
    (HandRange.contents (HandRange.insert r k w)).filter (fun e => e.1 = k) = [(k, w)] := by
  have hn := RangeAux.contents_nodup (HandRange.insert r k w)
  rw [HandRange.insert, HandRange.contents] at hn ⊢
  -- the keys are distinct: no later entry has the key `k`
  rw [List.filter_cons_of_pos (by simp), List.filter_eq_nil_iff.mpr fun e he hk =>
    (List.nodup_cons.mp hn).1 (List.mem_map.mpr ⟨e, he, of_decide_eq_true hk⟩)]

/-- **a range holds each combo once.**  For any insert history `r` and two different cards `a`, `b`:
both card orders are the same key; after inserting the combo under `mkPair a b` with weight `w₁` and
then under `mkPair b a` with weight `w₂`, the contents have pairwise different keys, contain exactly
one entry for that combo — the one with the later weight `w₂` — which is also what a lookup under
either order returns, and the earlier weight `w₁` survives nowhere under that key. -/
theorem range_holds_each_combo_once (r : HandRange W) (a b : Card) (h : a ≠ b) (w₁ w₂ : W) :
    mkPair a b = mkPair b a
    ∧ ((HandRange.contents ((r.insert (mkPair a b) w₁).insert (mkPair b a) w₂)).map (·.1)).Nodup
    ∧ (HandRange.contents ((r.insert (mkPair a b) w₁).insert (mkPair b a) w₂)).filter
        (fun e => e.1 = mkPair a b) = [(mkPair a b, w₂)]
    ∧ ((HandRange.contents ((r.insert (mkPair a b) w₁).insert (mkPair b a) w₂)).map (·.1)).count
        (mkPair a b) = 1
    ∧ HandRange.lookup ((r.insert (mkPair a b) w₁).insert (mkPair b a) w₂) (mkPair a b) = some w₂
    ∧ HandRange.lookup ((r.insert (mkPair a b) w₁).insert (mkPair b a) w₂) (mkPair b a) = some w₂
    ∧ ∀ e ∈ HandRange.contents ((r.insert (mkPair a b) w₁).insert (mkPair b a) w₂),
        e.1 = mkPair a b → e = (mkPair a b, w₂) := by
  rw [← (pair_canonical a b h).1]
  have hf := contents_insert_filter (HandRange.insert r (mkPair a b) w₁) (mkPair a b) w₂
  have hl : HandRange.lookup ((r.insert (mkPair a b) w₁).insert (mkPair a b) w₂) (mkPair a b) = some w₂ :=
    if_pos rfl
  refine ⟨rfl, RangeAux.contents_nodup _, hf, ?_, hl, hl, ?_⟩
  · apply Nat.le_antisymm (List.nodup_iff_count.mp (RangeAux.contents_nodup _) _)
    exact List.count_pos_iff.mpr (List.mem_map.mpr ⟨_, (RangeAux.mem_contents_iff _ _ _).mpr hl, rfl⟩)
  · intro e he hk
    exact List.mem_singleton.mp (hf ▸ List.mem_filter.mpr ⟨he, decide_eq_true hk⟩)

/-- inserting under either card order does not disturb any other combo -/
theorem insert_other_lookup (r : HandRange W) (a b : Card) (w : W) (c : Combo) (hc : c ≠ mkPair a b) :
    HandRange.lookup (r.insert (mkPair a b) w) c = HandRange.lookup r c := by
  simp only [HandRange.insert, HandRange.lookup]
  rw [if_neg (fun e => hc e.symm)]

/-- non-vacuity: K♦ 7♣ inserted as (7♣, K♦) with weight 5 and then as (K♦, 7♣) with weight 9 into a
history that already holds it (weight 1) next to A♠ K♣ (weight 2): one entry `Kd7c ↦ 9`, and `AsKc`
untouched. -/
example :
    HandRange.contents
      ((HandRange.insert
          (HandRange.insert [(mkPair ⟨1, 2⟩ ⟨7, 3⟩, 1), (mkPair ⟨0, 0⟩ ⟨1, 3⟩, 2)] (mkPair ⟨7, 3⟩ ⟨1, 2⟩) 5)
          (mkPair ⟨1, 2⟩ ⟨7, 3⟩) 9) : HandRange Nat)
      = [(⟨⟨1, 2⟩, ⟨7, 3⟩⟩, 9), (⟨⟨0, 0⟩, ⟨1, 3⟩⟩, 2)] := by
  have hk : mkPair ⟨7, 3⟩ ⟨1, 2⟩ = (⟨⟨1, 2⟩, ⟨7, 3⟩⟩ : Combo) := by decide
  have hk' : mkPair ⟨1, 2⟩ ⟨7, 3⟩ = (⟨⟨1, 2⟩, ⟨7, 3⟩⟩ : Combo) := by decide
  have ha : mkPair ⟨0, 0⟩ ⟨1, 3⟩ = (⟨⟨0, 0⟩, ⟨1, 3⟩⟩ : Combo) := by decide
  rw [hk, hk', ha]
  simp [HandRange.insert, HandRange.contents, HandRange.remove]

example := range_holds_each_combo_once
  ([(mkPair ⟨1, 2⟩ ⟨7, 3⟩, 1), (mkPair ⟨0, 0⟩ ⟨1, 3⟩, 2)] : HandRange Nat) ⟨7, 3⟩ ⟨1, 2⟩ (by decide) 5 9

end EspadaVerif.C14
