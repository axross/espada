/-
C08 — Enumeration always terminates, in bounded stack, without panicking.

The model's `next` is a loop with explicit fuel (`nextFuel`/`fuelFor`); "terminates" means the fuel is never
exhausted (`.err`), "without panicking" that no `.panic` arm (index out of range, `unwrap` of `None`)
is reachable.  The per-player counters of the model are unbounded naturals; they stand for the `usize`
counters `current_player_indexes` of the source, which stay below `Vec` lengths (`C08_advance_arith` in
`C08Bounds`), so the model has no overflow arm for them.  Ranges may be empty or of any size.
Bounded stack: the skip is a loop — `Gen.nextSelfCalls` (the number of syntactic `self.next()` calls
inside `fn next`, read from the source on every run) is 0; native stack use itself is observed by
child-process runs, not proved.
-/
import EspadaVerif.Lemmas.IterScope

namespace EspadaVerif.C08
open Spec C02 EspadaVerif.IterLemmas

variable {W : Type}

/-- **C08 (total).** For every proper input and scope, draining with any bound on the number of showdowns
returns normally: never a panic, never out of fuel. -/
theorem C08_total (ops : WOps W) (flop : List Card) (ranges : List (List (Combo × W))) (a b : Nat × Nat)
    (h : WfInput flop ranges) (hs : ValidScope a b) :
    ∃ s₀ : IterState W, (mkEvaluator flop ranges a b).intoIter = .ok s₀ ∧
      ∀ limit, ∃ sds s', drainFuel ops limit s₀ [] = .ok (sds, s') :=
  scope_total ops h.wfFlop h.rv hs

-- `hs` is not needed: an empty range ends the enumeration whatever the scope
set_option linter.unusedVariables false in
/-- **C08 (empty range).** A player with an empty range simply makes the enumeration empty. -/
theorem C08_empty (ops : WOps W) (flop : List Card) (ranges : List (List (Combo × W))) (a b : Nat × Nat)
    (h : WfInput flop ranges) (hs : ValidScope a b) (hempty : [] ∈ ranges) :
    ∃ s₀ : IterState W, (mkEvaluator flop ranges a b).intoIter = .ok s₀ ∧
      ∀ limit, drainFuel ops (limit + 1) s₀ [] = .ok ([], s₀) :=
  ⟨_, intoIter_eq flop ranges a b h.wfFlop, fun limit =>
    (Halts.nil (step_empty ops flop b a _ ⟨[], hempty, rfl⟩)).drain.1 (limit + 1) (Nat.succ_pos limit)⟩

-- the bound holds for any input and scope: `ops`, `h`, `hs` are not needed
set_option linter.unusedVariables false in
/-- **C08 (yield bound).** The legal deals of a scope, i.e. (by `C02_refines`) the showdowns a full drain of
the scoped evaluator yields, number at most `1176 × Π (range sizes)`, where 1176 = C(49,2) counts the
(turn, river) positions of the 49-card deck.  (The loop iterations themselves are counted by `C08_steps`.) -/
theorem C08_yield_bound (ops : WOps W) (flop : List Card) (ranges : List (List (Combo × W))) (a b : Nat × Nat)
    (h : WfInput flop ranges) (hs : ValidScope a b) :
    (deals (flop.map Card.code) (specEntries ranges) a b).length
      ≤ 1176 * (ranges.map List.length).foldl (· * ·) 1 := by
  rw [deals_eq_blocks, foldl_mul_lengths ranges 1, Nat.one_mul]
  -- at most 1176 positions, at each a sublist of the image of `product ranges`
  exact Nat.le_trans
    (Lemmas.length_flatMap_le _ _ (product ranges).length fun p _ =>
      dealsAt_specEntries flop ranges p ▸ Nat.le_trans (List.length_filter_le _ _) (Nat.le_of_eq (List.length_map _)))
    (Nat.mul_le_mul_right _ (positionsBetween_length_le a b))

/-- the skip of blocked deals is a loop in the source: no `self.next()` call inside `fn next` -/
theorem C08_no_recursion : Gen.nextSelfCalls = 0 := by decide

end EspadaVerif.C08
