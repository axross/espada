/-
C01 — 7-card evaluation equals the true strength class of the best five-card hand.

`eval7` is the executable model of `MadeHand::from([Card; 7]).power_index()` over the tables regenerated from the
Rust source; `Spec.best` is the smallest standard class among the 21 five-card hands contained in the seven cards.
The proof combines the kernel obligations K1 (flush table, `Kernel.flush_slot`) and K2 (no-flush table,
`Kernel.rainbow_slot`): every reachable slot holds the best class of its rank pattern; permutation invariance of
model and specification (`Lemmas.eval7_perm`, `Lemmas.best_perm`); and the factorisation of the best hand into
"best flush" and "best unsuited" parts.
-/
import EspadaVerif.Kernel.Assemble
import EspadaVerif.Lemmas.ListAux
import EspadaVerif.Lemmas.EvalModel

namespace EspadaVerif.C01
open Spec Kernel Lemmas

/-- a model card as the specification sees it: (rank code, suit) -/
def toSpec (c : Card) : Nat × Nat := (c.rank, c.suit)

structure Seven (cs : List Card) : Prop where
  len : cs.length = 7
  nodup : cs.Nodup
  valid : ∀ c ∈ cs, c.valid = true

instance Seven.instDecidable (cs : List Card) : Decidable (Seven cs) :=
  decidable_of_iff (cs.length = 7 ∧ cs.Nodup ∧ ∀ c ∈ cs, c.valid = true)
    ⟨fun ⟨h₁, h₂, h₃⟩ => ⟨h₁, h₂, h₃⟩, fun ⟨h₁, h₂, h₃⟩ => ⟨h₁, h₂, h₃⟩⟩

theorem map_toSpec_fst (l : List Card) : (l.map toSpec).map (·.1) = l.map (·.rank) := by
  simp [toSpec, List.map_map, Function.comp_def]

theorem allSameSuit_map_toSpec (l : List Card) :
    allSameSuit (l.map toSpec) = true ↔ ∃ t, l.all (fun c => c.suit == t) = true := by
  simp only [allSameSuit_iff, List.forall_mem_map, toSpec, List.all_eq_true, beq_iff_eq]
  constructor
  · intro H
    match l with
    | [] => exact ⟨0, nofun⟩
    | c₀ :: _ => exact ⟨c₀.suit, fun c hc => H c hc c₀ List.mem_cons_self⟩
  · rintro ⟨t, H⟩ c hc d hd
    rw [H c hc, H d hd]

theorem suited_ranks_lt {cs : List Card} (hnd : cs.Nodup) (hs : (cs.map (·.rank)).Pairwise (· ≤ ·)) (s : Nat) :
    ((cs.filter (fun c => c.suit == s)).map (·.rank)).Pairwise (· < ·) := by
  -- in rank order (a sublist of `cs`) and without repetition
  have hn := nodup_rank_of_suit (l := cs.filter (fun c => c.suit == s)) (t := s) (hnd.sublist List.filter_sublist)
    fun c hc => beq_iff_eq.mp (List.mem_filter.mp hc).2
  exact ((hs.sublist (List.filter_sublist.map _)).and hn).imp fun ⟨h1, h2⟩ => by omega

/-- the class of a five-card sub-hand of cards in rank order, without the sorting step -/
theorem class5_sub {cs S₀ : List Card} (hs : (cs.map (·.rank)).Pairwise (· ≤ ·)) (hS : S₀ ∈ choose 5 cs) :
    class5 (S₀.map toSpec) =
      if allSameSuit (S₀.map toSpec) then sclassL (S₀.map (·.rank)) else uclassL (S₀.map (·.rank)) := by
  have := class5_of_sorted (S₀.map toSpec)
  rw [map_toSpec_fst] at this
  exact this (hs.sublist ((mem_choose_iff.mp hS).1.map _))

theorem suited_sub {cs S₀ : List Card} (hS : S₀ ∈ choose 5 cs) (hall : allSameSuit (S₀.map toSpec) = true) :
    ∃ t, 5 ≤ cs.countP (fun c => c.suit == t) ∧ S₀ ∈ choose 5 (cs.filter (fun c => c.suit == t)) := by
  obtain ⟨t, ht⟩ := (allSameSuit_map_toSpec S₀).mp hall
  have hin : S₀ ∈ choose 5 (cs.filter (fun c => c.suit == t)) :=
    choose_filter _ 5 cs ▸ List.mem_filter.mpr ⟨hS, ht⟩
  obtain ⟨hsub, hl⟩ := mem_choose_iff.mp hin
  exact ⟨t, by rw [List.countP_eq_length_filter, ← hl]; exact hsub.length_le, hin⟩

/-- spec side, flush: with the unsuited classes behind 1599 only the suited sub-hands count, and they are all of
suit `s` (`flush_suit_unique`) -/
theorem best_flush {cs : List Card} (hlen : cs.length ≤ 9) (hs : (cs.map (·.rank)).Pairwise (· ≤ ·)) {s : Nat}
    (h5 : 5 ≤ cs.countP (fun c => c.suit == s))
    (hfl : fl7 ((cs.filter (fun c => c.suit == s)).map (·.rank)) ≤ 1599) (hnf : 1600 ≤ nf7 (cs.map (·.rank))) :
    best (cs.map toSpec) = fl7 ((cs.filter (fun c => c.suit == s)).map (·.rank)) := by
  simp only [best_map, fl7, nf7, map_choose_map] at hfl hnf ⊢
  apply minList_eq_of_forall
  · -- the best flush sub-hand is one of the 21 sub-hands
    rcases minList_mem_or ((choose 5 (cs.filter (fun c => c.suit == s))).map fun S => sclassL (S.map (·.rank)))
      with h | h
    · omega
    · obtain ⟨S₀, hS₀, hval⟩ := List.mem_map.mp h
      rw [← choose_filter] at hS₀
      obtain ⟨hS₀c, hS₀all⟩ := List.mem_filter.mp hS₀
      refine List.mem_map.mpr ⟨S₀, hS₀c, ?_⟩
      rw [class5_sub hs hS₀c, if_pos ((allSameSuit_map_toSpec S₀).mpr ⟨s, hS₀all⟩), hval]
  · -- no sub-hand is better
    intro x hx
    obtain ⟨S₀, hS₀, rfl⟩ := List.mem_map.mp hx
    rw [class5_sub hs hS₀]
    split
    · rename_i hall
      obtain ⟨t, ht5, hin⟩ := suited_sub hS₀ hall
      rw [flush_suit_unique hlen h5 ht5]
      exact minList_le_of_mem (List.mem_map.mpr ⟨S₀, hin, rfl⟩)
    · have := minList_le_of_mem (List.mem_map_of_mem (f := fun S => uclassL (S.map (·.rank))) hS₀)
      omega
  · omega

/-- spec side, no flush: the rank multiset decides -/
theorem best_rainbow {cs : List Card} (hs : (cs.map (·.rank)).Pairwise (· ≤ ·))
    (hno : ∀ s, cs.countP (fun c => c.suit == s) < 5) : best (cs.map toSpec) = nf7 (cs.map (·.rank)) := by
  rw [best_map, nf7, map_choose_map]
  congr 1
  apply List.map_congr_left
  intro S₀ hS₀
  rw [class5_sub hs hS₀, if_neg]
  intro hall
  obtain ⟨t, ht5, _⟩ := suited_sub hS₀ hall
  have := hno t
  omega

theorem C01_eval_sorted (cs : List Card) (hlen : cs.length = 7) (hnd : cs.Nodup)
    (hv : ∀ c ∈ cs, c.valid = true) (hsorted : (cs.map (·.rank)).Pairwise (· ≤ ·)) :
    eval7 cs = .ok (best (cs.map toSpec)) := by
  have hRb := rank_lt_of_valid hv
  -- what the kernel obligation K2 says about the rank list
  have hRl : (cs.map (·.rank)).length = 7 := by rw [List.length_map, hlen]
  obtain ⟨hh, hhash, htbl, hdom⟩ := rainbow_slot _ hRl hsorted hRb (count_rank_le_four cs hnd hv)
  rcases findFlushSuit_spec cs hv with ⟨s, _, h5, hff⟩ | ⟨hno, hff⟩
  · -- a flush suit exists: K1 on the ranks of that suit
    have hFsub : (cs.filter (fun c => c.suit == s)).Sublist cs := List.filter_sublist
    have hFlt := suited_ranks_lt hnd hsorted s
    obtain ⟨hfl, hfl2⟩ := flush_slot _
      (by rw [List.length_map, ← List.countP_eq_length_filter]; exact h5)
      (by rw [List.length_map]; exact hlen ▸ hFsub.length_le) hFlt
      (fun r hr => hRb r ((hFsub.map _).subset hr))
    -- five ranks of one suit are five different ranks, so K2 puts the unsuited classes behind every flush
    have hasc := ascents_bound hsorted (hFsub.map (·.rank)) hFlt
    rw [List.length_map, ← List.countP_eq_length_filter] at hasc
    rw [best_flush (by omega) hsorted h5 hfl2 (by omega)]
    simp only [eval7, hff]
    rw [hashFlush_eq, hfl]
  · rw [best_rainbow hsorted hno]
    simp only [eval7, hff, hashRainbow, hhash, htbl]

/-- **C01 (evaluation).** For any seven distinct cards, in any order, the evaluated power index is the
standard class (1 = royal flush … 7462) of the best five-card hand they contain. -/
theorem C01_eval (cs : List Card) (hlen : cs.length = 7) (hnd : cs.Nodup) (hv : ∀ c ∈ cs, c.valid = true) :
    eval7 cs = .ok (best (cs.map toSpec)) := by
  -- both sides are insensitive to the order: put the cards in rank order
  have hperm := List.mergeSort_perm cs fun a b => decide (a.rank ≤ b.rank)
  rw [eval7_perm hperm.symm hv (by omega), ← best_perm (hperm.map toSpec)]
  exact C01_eval_sorted _ (by rw [hperm.length_eq, hlen]) (hperm.nodup_iff.mpr hnd)
    (fun c hc => hv c (hperm.mem_iff.mp hc)) (List.pairwise_map.mpr (pairwise_mergeSort_key (·.rank) cs))

theorem Seven.eval {cs : List Card} (h : Seven cs) : eval7 cs = .ok (best (cs.map toSpec)) :=
  C01_eval cs h.len h.nodup h.valid

theorem Seven.index {cs : List Card} (h : Seven cs) {i : Nat} (e : eval7 cs = .ok i) : i = best (cs.map toSpec) :=
  Res.ok.inj (e.symm.trans h.eval)

/-- **C01 (order of presentation).** Any two orders of the same seven cards evaluate equally. -/
theorem C01_order (cs₁ cs₂ : List Card) (hp : cs₁.Perm cs₂) (hlen : cs₁.length = 7) (hnd : cs₁.Nodup)
    (hv : ∀ c ∈ cs₁, c.valid = true) : eval7 cs₁ = eval7 cs₂ :=
  have _ := hnd  -- not needed: the model is order-insensitive on any (at most nine) valid cards
  eval7_perm hp hv (by omega)

end EspadaVerif.C01
