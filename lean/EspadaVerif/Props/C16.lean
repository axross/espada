/-
C16 — The example's work splitter tiles the enumeration for every worker count.

`calculateScopes F n` is the model of `calculate_scopes(n)` with the `f32` pipeline abstracted into an
arbitrary function `F` (two `u8` results per worker): the tiling holds whatever the float arithmetic yields,
for every `n ≥ 1` — there is no bound on `n` and nothing about IEEE arithmetic is assumed.
-/
import EspadaVerif.Model.Scopes
import EspadaVerif.Lemmas.IterDefs

namespace EspadaVerif.C16
open Spec C02

/-- the example compares cut points in the order of the positions -/
theorem tupleLt_eq_posLt (a b c d : Nat) : tupleLt a b c d = posLt (a, b) (c, d) := rfl

/-- never stepping backwards: the later of a valid candidate cut and the previous cut is valid and not before
the previous one; it is the terminal whenever the candidate is, since no valid position lies after that
(`P`: this is the last worker) -/
theorem clamp_spec {P : Prop} (t r pt pr : Nat) (hv : validPos (pt, pr) = true) (hc : validPos (t, r) = true)
    (hl : P → (t, r) = (48, 49)) :
    ∃ t' r', (if tupleLt t r pt pr then (Res.ok (pt, pr) : Res (Nat × Nat)) else .ok (t, r)) = .ok (t', r')
      ∧ validPos (t', r') = true ∧ posLe (pt, pr) (t', r') = true ∧ (P → (t', r') = (48, 49)) := by
  rw [tupleLt_eq_posLt]
  by_cases h : posLt (t, r) (pt, pr) = true
  · refine ⟨pt, pr, if_pos h, hv, IterLemmas.posLe_refl _, fun hp => ?_⟩
    have := IterLemmas.validPos_bounds hv
    rw [hl hp, IterLemmas.posLt_iff] at h
    exact Prod.ext (by omega) (by omega)
  · refine ⟨t, r, if_neg h, hc, ?_, hl⟩
    rw [IterLemmas.posLt_iff] at h
    rw [IterLemmas.posLe_iff]
    omega

/-- one loop iteration never panics, yields a valid position not before the previous cut, and the last
worker's cut is the terminal -/
theorem cutPoint_spec (f : Nat × Nat) (i count pt pr : Nat) (hv : validPos (pt, pr) = true) :
    ∃ t r, cutPoint f i count pt pr = .ok (t, r) ∧ validPos (t, r) = true
      ∧ posLe (pt, pr) (t, r) = true ∧ (i + 1 = count → (t, r) = (48, 49)) := by
  unfold cutPoint
  simp only []
  generalize f.1 % 256 = t0
  generalize f.2 % 256 = off
  by_cases h1 : (decide (i + 1 = count) || decide (t0 ≥ 48)) = true
  · rw [if_pos h1]
    exact clamp_spec 48 49 pt pr hv (by decide) fun _ => rfl
  · rw [if_neg h1]
    have h1' : ¬ (i + 1 = count) ∧ t0 < 48 := by
      simp at h1
      omega
    rw [if_neg (by omega : ¬ (t0 + 1 + min off (48 - t0) > 255))]
    by_cases h2 : t0 + 1 + min off (48 - t0) > 48
    · rw [if_pos h2]
      exact clamp_spec _ _ pt pr hv (by rw [IterLemmas.validPos_iff, Prod.mk.injEq]; omega) (absurd · h1'.1)
    · rw [if_neg h2]
      exact clamp_spec _ _ pt pr hv (by rw [IterLemmas.validPos_iff, Prod.mk.injEq]; omega) (absurd · h1'.1)

/-- `l` is a chain of valid scopes from `a` to `b` -/
def Tiles : List CalcScope → Nat × Nat → Nat × Nat → Prop
  | [], a, b => a = b
  | s :: rest, a, b =>
    (s.turnFrom, s.riverFrom) = a ∧ ValidScope a (s.turnTo, s.riverTo) ∧ Tiles rest (s.turnTo, s.riverTo) b

/-- the loop from worker `i` on: `fuel` workers are left, and when none is the previous cut is the terminal -/
theorem loop_spec (F : Nat → Nat → Nat × Nat) (count : Nat) :
    ∀ (fuel i pt pr : Nat), validPos (pt, pr) = true → i + fuel = count → (fuel = 0 → (pt, pr) = (48, 49)) →
      ∃ l, scopesLoop F count fuel i pt pr = .ok l ∧ l.length = fuel ∧ Tiles l (pt, pr) (48, 49)
  | 0, _, _, _, _, _, h0 => ⟨[], rfl, rfl, h0 rfl⟩
  | fuel + 1, i, pt, pr, hv, hc, _ => by
    obtain ⟨t, r, e, v, le, last⟩ := cutPoint_spec (F i count) i count pt pr hv
    obtain ⟨rest, e2, hlen, ht⟩ := loop_spec F count fuel (i + 1) t r v (by omega) fun h0 => last (by omega)
    exact ⟨⟨pt, pr, t, r⟩ :: rest, by simp only [scopesLoop, e, e2], congrArg (· + 1) hlen, rfl, ⟨hv, v, le⟩, ht⟩

/-- for `n ≥ 1` workers the splitter returns `n` scopes that chain from the first position to the terminal -/
theorem calculateScopes_tiles (F : Nat → Nat → Nat × Nat) (n : Nat) (hn : 1 ≤ n) :
    ∃ l, calculateScopes F n = .ok l ∧ l.length = n ∧ Tiles l (0, 1) (48, 49) :=
  loop_spec F n n 0 0 1 (by decide) (by omega) (by omega)

theorem Tiles.head {l : List CalcScope} {a b : Nat × Nat} (h : Tiles l a b) (hne : l ≠ []) :
    (l.head?.map fun s => (s.turnFrom, s.riverFrom)) = some a := by
  cases l with
  | nil => exact absurd rfl hne
  | cons s rest => exact congrArg some h.1

theorem Tiles.last : ∀ {l : List CalcScope} {a b : Nat × Nat}, Tiles l a b → l ≠ [] →
    (l.getLast?.map fun s => (s.turnTo, s.riverTo)) = some b
  | [], _, _, _, hne => absurd rfl hne
  | [_], _, _, h, _ => congrArg some h.2.2
  | _ :: s :: rest, _, _, h, _ => by
    rw [List.getLast?_cons_cons]
    exact Tiles.last h.2.2 (List.cons_ne_nil s rest)

theorem Tiles.chained : ∀ {l : List CalcScope} {a b : Nat × Nat}, Tiles l a b →
    ∀ k s s', l[k]? = some s → l[k + 1]? = some s' → (s'.turnFrom, s'.riverFrom) = (s.turnTo, s.riverTo) := by
  intro l
  induction l with
  | nil => intro a b _ k s s' h; simp at h
  | cons x rest ih =>
    intro a b h k s s' hk hk1
    cases k with
    | succ k => exact ih h.2.2 k s s' hk hk1
    | zero =>
      cases Option.some.inj hk
      cases rest with
      | nil => cases hk1
      | cons y rest' =>
        cases Option.some.inj hk1
        exact h.2.2.1

theorem Tiles.valid : ∀ {l : List CalcScope} {a b : Nat × Nat}, Tiles l a b →
    ∀ s ∈ l, ValidScope (s.turnFrom, s.riverFrom) (s.turnTo, s.riverTo)
  | _ :: _, _, _, h, s, hs => by
    rcases List.mem_cons.mp hs with rfl | hs
    · exact h.1 ▸ h.2.1
    · exact Tiles.valid h.2.2 s hs

theorem Tiles.positions : ∀ {l : List CalcScope} {a b : Nat × Nat}, Tiles l a b →
    l.flatMap (fun s => positionsBetween (s.turnFrom, s.riverFrom) (s.turnTo, s.riverTo)) = positionsBetween a b
      ∧ posLe a b = true
  | [], a, _, h => by
    rw [show a = _ from h]
    exact ⟨(IterLemmas.positionsBetween_self _).symm, IterLemmas.posLe_refl _⟩
  | x :: rest, a, b, h => by
    obtain ⟨h1, h2⟩ := Tiles.positions h.2.2
    rw [List.flatMap_cons, h1, h.1]
    exact ⟨IterLemmas.positionsBetween_append h.2.1.ordered h2, IterLemmas.posLe_trans h.2.1.ordered h2⟩

theorem Tiles.sum {W : Type} (flop : List Nat) (entries : List (List (Nat × Nat × W)))
    {l : List CalcScope} {a b : Nat × Nat} (h : Tiles l a b) :
    l.flatMap (fun s => deals flop entries (s.turnFrom, s.riverFrom) (s.turnTo, s.riverTo))
      = deals flop entries a b := by
  simp only [IterLemmas.deals_eq_blocks]
  exact Lemmas.flatMap_pieces h.positions.1 _

/-- **C16.** For every worker count `n ≥ 1` (and every behaviour `F` of the float pipeline) the scope list is
computed without overflow, has `n` scopes, starts at (0,1), ends at (48,49), each scope starts where the
previous one ended, never steps backwards and names only valid positions. -/
theorem C16_tiles (F : Nat → Nat → Nat × Nat) (n : Nat) (hn : 1 ≤ n) :
    ∃ l : List CalcScope, calculateScopes F n = .ok l ∧ l.length = n
      ∧ (l.head?.map fun s => (s.turnFrom, s.riverFrom)) = some (0, 1)
      ∧ (l.getLast?.map fun s => (s.turnTo, s.riverTo)) = some (48, 49)
      ∧ (∀ k s s', l[k]? = some s → l[k + 1]? = some s' → (s'.turnFrom, s'.riverFrom) = (s.turnTo, s.riverTo))
      ∧ (∀ s ∈ l, ValidScope (s.turnFrom, s.riverFrom) (s.turnTo, s.riverTo)) := by
  obtain ⟨l, e, hlen, ht⟩ := calculateScopes_tiles F n hn
  have hne : l ≠ [] := fun h => by rw [← hlen, h] at hn; cases hn
  exact ⟨l, e, hlen, ht.head hne, ht.last hne, ht.chained, ht.valid⟩

/-- Hence the per-scope enumerations add up to the single-threaded one: the legal deals of the scopes, scope
after scope, are exactly the legal deals of the full enumeration, each once (with `C04_scoped` each worker
yields exactly its piece). -/
theorem C16_sum {W : Type} (F : Nat → Nat → Nat × Nat) (n : Nat) (hn : 1 ≤ n)
    (flop : List Nat) (entries : List (List (Nat × Nat × W))) :
    ∃ l : List CalcScope, calculateScopes F n = .ok l ∧
      l.flatMap (fun s => deals flop entries (s.turnFrom, s.riverFrom) (s.turnTo, s.riverTo))
        = deals flop entries (0, 1) (48, 49) := by
  obtain ⟨l, e, _, ht⟩ := calculateScopes_tiles F n hn
  exact ⟨l, e, ht.sum flop entries⟩

/-- non-vacuity: with a constant pipeline the splitter still tiles -/
example : calculateScopes (fun _ _ => (7, 200)) 3
    = .ok [⟨0, 1, 8, 9⟩, ⟨8, 9, 8, 9⟩, ⟨8, 9, 48, 49⟩] := by decide

end EspadaVerif.C16
