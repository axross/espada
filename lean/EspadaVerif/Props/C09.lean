/-
C09 — Parsers are total: any string yields a value or an error, never a panic; every value obtained this
way can be expanded, formatted, decomposed into rank pairs and handed to the evaluator without panicking.

Strings are arbitrary byte lists here (a superset of valid UTF-8): the byte-offset slices of the model
panic exactly where Rust's would (non-boundary / out of range).
-/
import EspadaVerif.Lemmas.TextDefs
import EspadaVerif.Props.C08
import EspadaVerif.Lemmas.RangeAux
import EspadaVerif.Lemmas.FormatFacts
import EspadaVerif.Props.C09Regex

namespace EspadaVerif.C09
open TextDefs TokenFacts RangeAux

variable {W : Type}

/-- **C09 (parsers).** No input makes any of the six parsers panic. -/
theorem C09_parse_total (wt : WText W) (s : Bytes) :
    parseRank s ≠ .panic ∧ parseSuit s ≠ .panic ∧ parseCard s ≠ .panic ∧ parsePair s ≠ .panic
    ∧ parseToken wt s ≠ .panic ∧ parseRange wt s ≠ .panic := by
  refine ⟨parseRank_ne_panic s, parseSuit_ne_panic s, parseCard_ne_panic s, parsePair_ne_panic s,
    parseToken_ne_panic wt s, ?_⟩
  rw [parseRange_eq]
  exact fun e => nomatch e

/-- every token that parses satisfies the order conditions its expansion relies on, so expanding it cannot panic; the
expansion holds real combos -/
theorem C09_use_total (wt : WText W) (s : Bytes) (t : Token W) (h : parseToken wt s = .ok t) :
    ∃ es, t.expand = .ok es ∧ (∀ e ∈ es, ComboOk e.1 ∧ e.2 = t.prob) :=
  expand_ok t (parseToken_tokenOk wt s t h).1

/-- formatting and decomposing never panic, for any range whatsoever -/
theorem C09_range_views_total (wt : WText W) (r : HandRange W) :
    (∃ l, rankPairs wt r = .ok l) ∧ (∃ o, orphans wt r = .ok o) ∧ (∃ txt, showRange wt r = .ok txt) :=
  ⟨⟨_, RankPairFacts.rankPairs_eq wt r⟩, ⟨_, RankPairFacts.orphans_eq wt r⟩, ⟨_, FormatFacts.showRange_eq wt r⟩⟩

/-- **C09 (ranges).** A parsed range can be formatted, decomposed and evaluated on any flop without panicking. -/
theorem C09_range_total (wt : WText W) (ops : WOps W) (s : Bytes) (r : HandRange W) (h : parseRange wt s = .ok r)
    (flop : List Card) (hf : flop.length = 3 ∧ flop.Nodup ∧ ∀ c ∈ flop, c.valid = true) (others : List (List (Combo × W)))
    (ho : C02.WfInput flop others) (a b : Nat × Nat) (hs : C02.ValidScope a b) :
    (∃ l, rankPairs wt r = .ok l) ∧ (∃ o, orphans wt r = .ok o) ∧ (∃ txt, showRange wt r = .ok txt)
    ∧ ∃ s₀ : IterState W, (C02.mkEvaluator flop (HandRange.contents r :: others) a b).intoIter = .ok s₀ ∧
        ∀ limit, ∃ sds s', drainFuel ops limit s₀ [] = .ok (sds, s') := by
  obtain ⟨h1, h2, h3⟩ := C09_range_views_total wt r
  refine ⟨h1, h2, h3, ?_⟩
  exact C08.C08_total ops flop _ a b ⟨hf.1, hf.2.1, hf.2.2,
    List.forall_mem_cons.mpr ⟨fun e he => parseRange_comboOk wt s r h e (mem_contents r e he), ho.combos⟩,
    List.forall_mem_cons.mpr ⟨contents_nodup r, ho.nodup⟩⟩ hs

/-- The `regex` crate is modelled, for the pattern subset the crate uses (anchored, ASCII literals and classes, groups,
alternation, `?` `+` `*` `{n}`), by Brzozowski derivatives (`Model/Regex.lean`).  Each of the seven pattern literals read
from the source of `HandRangeToken::from_str` ON THIS RUN parses in that subset, and the model's hand-written recogniser
for that branch accepts exactly the byte strings the pattern matches.  (The literal is compared with the pattern the
recogniser was written for by a proved-sound equivalence checker run in the kernel, not by text equality, so an
equivalent rewrite of a pattern still proves and a language-changing one does not.) -/
theorem C09_regex_semantics (i : Nat) (hi : i < 7) (s : Bytes) :
    ∃ r, Rx.parse (Gen.tokenRegexCodes.getD i []) = some r ∧
         (C09Regex.recognisers.getD i (fun _ => false)) s = Rx.matches r s :=
  C09Regex.C09_regex_semantics i hi s

theorem C09_regex_count : Gen.tokenRegexCodes.length = 7 := C09Regex.C09_regex_count

end EspadaVerif.C09
