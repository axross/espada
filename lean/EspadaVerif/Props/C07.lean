/-
C07 — The reported hand category is the category of the best five-card hand.

`handType` is the first-match semantics of the interval arms read from the source (`Gen.handTypeArms`);
`Spec.catOfClass` is the category of a class index under the standard numbering, and
`Props/C01` shows the evaluated index *is* the class of the best five-card hand.
-/
import EspadaVerif.Model.HandType
import EspadaVerif.Props.C01Compare

namespace EspadaVerif.C07

/-- category names are declared weakest to strongest, as the specification numbers them -/
theorem category_names : Gen.categoryNames = Spec.categoryNames := by decide

/-- the arms follow one another without a gap, from `lo` on -/
def consecutive : Nat → List (Nat × Nat × Nat) → Bool
  | _, [] => true
  | lo, (lo', hi, _) :: rest => lo' == lo && consecutive (hi + 1) rest

/-- the lookup by upper ends only: the shape of `Spec.catOfClass` -/
def cutLookup : List (Nat × Nat × Nat) → Nat → Nat
  | [], _ => Gen.handTypeWild
  | (_, hi, c) :: rest, i => if i ≤ hi then c else cutLookup rest i

/-- in arms that follow one another without a gap the lower ends never decide -/
theorem lookup_eq_cut : ∀ (arms : List (Nat × Nat × Nat)) (lo i : Nat), lo ≤ i → consecutive lo arms = true →
    handTypeArmsLookup arms i = cutLookup arms i
  | [], _, _, _, _ => rfl
  | (lo', hi, c) :: rest, lo, i, hlo, hc => by
    simp only [consecutive, Bool.and_eq_true, beq_iff_eq] at hc
    simp only [handTypeArmsLookup, cutLookup, hc.1, Bool.and_eq_true, decide_eq_true_eq, hlo, true_and]
    split
    · rfl
    · exact lookup_eq_cut rest (hi + 1) i (by omega) hc.2

/-- the arms read from the source start at 0 and leave no gap, so `hand_type` is `Spec.catOfClass` on every
index (the wildcard arm is the weakest category) -/
theorem handType_eq (i : Nat) : handType i = Spec.catOfClass i := by
  rw [handType, lookup_eq_cut _ 0 i (Nat.zero_le i) (by decide)]
  rfl

/-- For every class index the interval arms of `hand_type` (read from the source, first match wins)
give the category of the standard numbering. -/
theorem C07_intervals (i : Nat) (h1 : 1 ≤ i) (h2 : i ≤ 7462) : handType i = Spec.catOfClass i :=
  have _ := And.intro h1 h2  -- not needed: the arms cover every index
  handType_eq i

/-- **C07.** For any seven distinct cards the reported category is the rule-book category of the
strongest five-card hand among them. -/
theorem C07 (cs : List Card) (h : C01.Seven cs) (i : Nat) (e : eval7 cs = .ok i) :
    handType i = Spec.categoryOfStrength (Spec.bestStrength (cs.map C01.toSpec)) := by
  obtain ⟨S, _, _, hstr, hcat⟩ := C01.C01_best_is_strongest cs h i e
  rw [handType_eq, hcat, hstr]

/-- boundary witnesses: the weakest hand of each category keeps its category -/
example : handType 10 = Spec.catStraightFlush ∧ handType 166 = Spec.catQuads ∧ handType 322 = Spec.catFullHouse
    ∧ handType 1599 = Spec.catFlush ∧ handType 1609 = Spec.catStraight ∧ handType 2467 = Spec.catTrips
    ∧ handType 3325 = Spec.catTwoPair ∧ handType 6185 = Spec.catPair ∧ handType 7462 = Spec.catHighCard := by decide

end EspadaVerif.C07
