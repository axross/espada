/-
C06 — the round trip with the hypothesis on the range's CONTENTS.

The hypothesis of `C06_range`, `∀ e ∈ r, ComboOk e.1 ∧ inDom e.2`, speaks of the insert HISTORY, overwritten inserts
included: `[(AsKs, 0.5), (AsKs, 2.0)]` (2.0 inserted first, then overwritten) has contents `{AsKs: 0.5}` but violates it.
`C06_range_contents` (`Props/C06.lean`) asks it only of what `lookup` answers; here a history on which the two differ.
-/
import EspadaVerif.Props.C06
import EspadaVerif.Props.Witness.Common
import EspadaVerif.Lemmas.Decide

namespace EspadaVerif.C06
open TextDefs

variable {W : Type}

theorem C06_range_of_contents (wt : WText W) (inDom : W → Prop) (hok : WTextOk wt inDom) (r : HandRange W)
    (hr : ∀ e ∈ r, ComboOk e.1 ∧ inDom e.2) :
    ∃ txt r', showRange wt r = .ok txt ∧ parseRange wt txt = .ok r' ∧ ∀ c, r'.lookup c = r.lookup c :=
  C06_range wt inDom hok r hr

open EspadaVerif.Witness

/-- A♠K♠ inserted with weight 2 (outside the domain {0, 0.5, 1}) and then overwritten with 0.5; the other three suited
ace-kings at 0.5; 7♦7♣ at 1 -/
def rOver : HandRange Wt :=
  [(⟨⟨0, 0⟩, ⟨1, 0⟩⟩, .half), (⟨⟨7, 2⟩, ⟨7, 3⟩⟩, .one), (⟨⟨0, 3⟩, ⟨1, 3⟩⟩, .half), (⟨⟨0, 2⟩, ⟨1, 2⟩⟩, .half),
   (⟨⟨0, 1⟩, ⟨1, 1⟩⟩, .half), (⟨⟨0, 0⟩, ⟨1, 0⟩⟩, .two)]

/-- the history hypothesis of `C06_range` fails on it … -/
example : ¬ ∀ e ∈ rOver, ComboOk e.1 ∧ wtDom e.2 :=
  fun h => (h (⟨⟨0, 0⟩, ⟨1, 0⟩⟩, .two) (by decide)).2 rfl

/-- … the contents hypothesis holds, so the round trip does -/
theorem C06_range_contents_at_witness :
    ∃ txt r', showRange wtText rOver = .ok txt ∧ parseRange wtText txt = .ok r' ∧ ∀ c, r'.lookup c = rOver.lookup c :=
  C06_range_contents wtText wtDom wtextOk rOver (rOver.contents_hyp_of_current (by decide))

/-- by evaluation: the text is `AKs:0.5,7d7c,7d7c` (the leftover pass meets a pocket combo under both suit orders and
writes it twice; parsing is idempotent on repeated tokens) and it parses back to the same five current entries -/
example : showRange wtText rOver = .ok [65, 75, 115, 58, 48, 46, 53, 44, 55, 100, 55, 99, 44, 55, 100, 55, 99] := by
  decide +kernel
example : (match parseRange wtText [65, 75, 115, 58, 48, 46, 53, 44, 55, 100, 55, 99, 44, 55, 100, 55, 99] with
    | .ok r' => some (r'.lookup ⟨⟨0, 0⟩, ⟨1, 0⟩⟩, r'.lookup ⟨⟨7, 2⟩, ⟨7, 3⟩⟩, r'.lookup ⟨⟨0, 0⟩, ⟨2, 0⟩⟩)
    | _ => none) = some (some .half, some .one, none) := by decide +kernel

end EspadaVerif.C06
