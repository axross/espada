/-
C11 — Equities are invariant under suit relabelling and follow player reordering.

Tallies are defined on the specification's legal deals (`Spec.tally`); the showdown a deal stands for
(`IterLemmas.sdOf`, the closed form `C03.showdownNew_some` of what the iterator yields) carries exactly the deal's
hands and winner flags (`sdOf_hand`, `sdOf_win`, `C11_model_flags`).
-/
import EspadaVerif.Spec.Tally
import EspadaVerif.Lemmas.IterScope
import EspadaVerif.Lemmas.TallySwap
import EspadaVerif.Lemmas.TallyPairs
import EspadaVerif.Lemmas.Winners

namespace EspadaVerif.C11
open Spec EspadaVerif.TallyLemmas

variable {W : Type}

def SuitPerm (σ : Nat → Nat) : Prop := (∀ s, s < 4 → σ s < 4) ∧ (∀ s t, s < 4 → t < 4 → σ s = σ t → s = t)

/-- proper spec-level input: three distinct flop cards; every entry two different cards (codes below 52) -/
structure WfSpecInput (flop : List Nat) (entries : List (List (Nat × Nat × W))) : Prop where
  flop_len : flop.length = 3
  flop_nodup : flop.Nodup
  flop_lt : ∀ c ∈ flop, c < 52
  cards : ∀ es ∈ entries, ∀ e ∈ es, e.1 < 52 ∧ e.2.1 < 52 ∧ e.1 ≠ e.2.1

theorem relabel_div_mod (σ : Nat → Nat) (hσ : SuitPerm σ) (c : Nat) :
    relabel σ c / 4 = c / 4 ∧ relabel σ c % 4 = σ (c % 4) := by
  have := hσ.1 (c % 4) (Nat.mod_lt _ (by omega))
  unfold relabel
  omega

theorem relabel_lt (σ : Nat → Nat) (hσ : SuitPerm σ) (c : Nat) (hc : c < 52) : relabel σ c < 52 := by
  have := relabel_div_mod σ hσ c
  omega

theorem relabel_inj (σ : Nat → Nat) (hσ : SuitPerm σ) (a b : Nat) (h : relabel σ a = relabel σ b) : a = b := by
  have ha := relabel_div_mod σ hσ a
  have hb := relabel_div_mod σ hσ b
  have := hσ.2 (a % 4) (b % 4) (Nat.mod_lt _ (by omega)) (Nat.mod_lt _ (by omega)) (by rw [← ha.2, ← hb.2, h])
  omega

theorem nodup_map_relabel (σ : Nat → Nat) (hσ : SuitPerm σ) (l : List Nat) :
    (l.map (relabel σ)).Nodup ↔ l.Nodup :=
  Lemmas.nodup_map_iff fun a _ b _ => relabel_inj σ hσ a b

/-- same ranks, and two relabelled suits agree exactly when the suits do -/
theorem class5_relabel (σ : Nat → Nat) (hσ : SuitPerm σ) (S : List Nat) :
    class5 (S.map fun c => cardOfCode (relabel σ c)) = class5 (S.map cardOfCode) := by
  have hr := fun c => (relabel_div_mod σ hσ c).1
  have hs := fun c => (relabel_div_mod σ hσ c).2
  have e1 : (S.map fun c => cardOfCode (relabel σ c)).map (·.1) = (S.map cardOfCode).map (·.1) := by
    simp only [List.map_map, Function.comp_def, cardOfCode, hr]
  have e2 : allSameSuit (S.map fun c => cardOfCode (relabel σ c)) = allSameSuit (S.map cardOfCode) := by
    rw [Bool.eq_iff_iff]
    simp only [Lemmas.allSameSuit_iff, List.forall_mem_map, cardOfCode, hs]
    exact forall₂_congr fun x _ => forall₂_congr fun y _ =>
      ⟨hσ.2 _ _ (Nat.mod_lt _ (by omega)) (Nat.mod_lt _ (by omega)), congrArg σ⟩
  unfold class5
  rw [e1, e2]

/-- `C11_best_suit` without the bound on the codes (it is not needed) -/
theorem best_relabel (σ : Nat → Nat) (hσ : SuitPerm σ) (cards : List Nat) :
    best ((cards.map (relabel σ)).map cardOfCode) = best (cards.map cardOfCode) := by
  rw [List.map_map, Lemmas.best_map, Lemmas.best_map]
  exact congrArg minList (List.map_congr_left fun S _ => class5_relabel σ hσ S)

/-- the class of the best hand does not change when the suits are relabelled -/
theorem C11_best_suit (σ : Nat → Nat) (hσ : SuitPerm σ) (cards : List Nat) (hc : ∀ c ∈ cards, c < 52) :
    best ((cards.map (relabel σ)).map cardOfCode) = best (cards.map cardOfCode) := by
  have _ := hc  -- the bound is not needed: `relabel` never changes the rank, whatever the code
  exact best_relabel σ hσ cards

def dealOK (flop : List Nat) (p k : Nat) (d : Deal W) : Bool :=
  ((dealWins flop d)[p]? == some true && (dealWins flop d).countP id == k) && Deal.legal flop d

/-- number of choices counted for the turn / river cards `t`, `r` -/
def posCount (flop : List Nat) (entries : List (List (Nat × Nat × W))) (p k t r : Nat) : Nat :=
  (product entries).countP fun ch => dealOK flop p k { turn := t, river := r, choice := ch }

/-- the tally position by position: the `filter` of `deals` by legality becomes a conjunct of the counted
predicate `dealOK`, so that a position's count ranges over all of `product entries` -/
theorem tally_eq (flop : List Nat) (entries : List (List (Nat × Nat × W))) (p k : Nat) :
    tally flop entries p k = ((positionsBetween (0, 1) (48, 49)).map fun pos =>
      posCount flop entries p k ((deck49 flop).getD pos.1 0) ((deck49 flop).getD pos.2 0)).sum := by
  simp only [tally, deals, List.countP_flatMap, Function.comp_def, List.countP_filter, List.countP_map, posCount,
    dealOK]

/-- two counts agree when the choices of both inputs can be listed side by side (`F i` against `G i`, up to
order) so that corresponding deals are counted alike -/
theorem posCount_congr {ι : Type} (I : List ι) (F G : ι → List (Nat × Nat × W)) {flop flop' : List Nat}
    {E E' : List (List (Nat × Nat × W))} {p p' k t r t' r' : Nat}
    (hE : (product E).Perm (I.map F)) (hE' : (product E').Perm (I.map G))
    (h : ∀ i ∈ I, dealOK flop' p' k { turn := t', river := r', choice := G i }
      = dealOK flop p k { turn := t, river := r, choice := F i }) :
    posCount flop' E' p' k t' r' = posCount flop E p k t r := by
  unfold posCount
  rw [hE.countP_eq, hE'.countP_eq, List.countP_map, List.countP_map]
  exact List.countP_congr fun i hi => by simp only [Function.comp, h i hi]

theorem tally_congr {flop : List Nat} {E E' : List (List (Nat × Nat × W))} {p p' k : Nat}
    (h : ∀ t r, posCount flop E' p' k t r = posCount flop E p k t r) : tally flop E' p' k = tally flop E p k := by
  rw [tally_eq, tally_eq]
  exact congrArg List.sum (List.map_congr_left fun pos _ => h _ _)

theorem dealOK_swap (flop : List Nat) (i p k t r : Nat) (ch : List (Nat × Nat × W)) (hi : i + 1 < ch.length) :
    dealOK flop (swapIdx i p) k { turn := t, river := r, choice := swapAt i ch }
      = dealOK flop p k { turn := t, river := r, choice := ch } := by
  have hw : dealWins flop ({ turn := t, river := r, choice := swapAt i ch } : Deal W)
      = swapAt i (dealWins flop { turn := t, river := r, choice := ch }) := by
    simp only [dealWins, dealHands, ← swapAt_map, winnersOf_swapAt]
  have hl : i + 1 < (dealWins flop ({ turn := t, river := r, choice := ch } : Deal W)).length := by
    simpa [dealWins, winnersOf, dealHands] using hi
  have hleg : Deal.legal flop ({ turn := t, river := r, choice := swapAt i ch } : Deal W)
      = Deal.legal flop { turn := t, river := r, choice := ch } :=
    decide_eq_decide.mpr (List.Perm.append_left _ ((swapAt_perm i ch).flatMap_right _)).nodup_iff
  unfold dealOK
  rw [hleg, hw, swapAt_getElem? i p _ hl, (swapAt_perm i _).countP_eq]

/-- a renaming of the card codes that no tally can see: injective, and no best class changes -/
structure Renaming (ρ : Nat → Nat) : Prop where
  nodup : ∀ l : List Nat, (l.map ρ).Nodup ↔ l.Nodup
  best : ∀ X : List Nat, best ((X.map ρ).map cardOfCode) = best (X.map cardOfCode)

theorem Renaming.id : Renaming id := ⟨by simp, by simp⟩

theorem SuitPerm.renaming {σ : Nat → Nat} (hσ : SuitPerm σ) : Renaming (relabel σ) :=
  ⟨nodup_map_relabel σ hσ, best_relabel σ hσ⟩

/-- **the congruence for the symmetries that act on cards.**  Rename the cards by `ρ` (the identity; a
relabelling of the suits) and, besides, list the five board cards and the two cards of every entry in any order:
legality and hands, hence what is counted, stay.  Both choices are read off one list of raw items (`f` against
`g`), so that the order inside an entry may depend on anything. -/
theorem dealOK_map {β : Type} {ρ : Nat → Nat} (hρ : Renaming ρ) {flop flop' : List Nat} {t r t' r' : Nat}
    (hb : (flop' ++ [t', r']).Perm ((flop ++ [t, r]).map ρ))
    (f g : β → Nat × Nat × W) (chT : List β)
    (h : ∀ x ∈ chT, [(g x).1, (g x).2.1].Perm ([(f x).1, (f x).2.1].map ρ)) (p k : Nat) :
    dealOK flop' p k { turn := t', river := r', choice := chT.map g }
      = dealOK flop p k { turn := t, river := r, choice := chT.map f } := by
  have hl : Deal.legal flop' ({ turn := t', river := r', choice := chT.map g } : Deal W)
      = Deal.legal flop { turn := t, river := r, choice := chT.map f } := by
    unfold Deal.legal
    apply decide_eq_decide.mpr
    refine (List.Perm.nodup_iff ?_).trans (hρ.nodup _)
    rw [List.map_append, List.flatMap_map, List.flatMap_map, List.map_flatMap]
    exact hb.append (Lemmas.perm_flatMap_left _ _ _ h)
  have hh : dealHands flop' ({ turn := t', river := r', choice := chT.map g } : Deal W)
      = dealHands flop { turn := t, river := r, choice := chT.map f } := by
    unfold dealHands
    simp only [List.map_map]
    apply List.map_congr_left
    intro x hx
    simp only [Function.comp]
    rw [← hρ.best ((f x).1 :: (f x).2.1 :: (flop ++ [t, r]))]
    exact Lemmas.best_perm (List.Perm.map _ ((h x hx).append hb))
  unfold dealOK dealWins
  rw [hl, hh]

/-- `dealOK_map` for all choices at once: two inputs read off one table `T` of raw items (`f` against `g`)
are counted alike when every item's two cards correspond up to order. -/
theorem posCount_map {β : Type} {ρ : Nat → Nat} (hρ : Renaming ρ) {flop flop' : List Nat} {t r t' r' : Nat}
    (hb : (flop' ++ [t', r']).Perm ((flop ++ [t, r]).map ρ))
    (T : List (List β)) (f g : β → Nat × Nat × W)
    (h : ∀ es ∈ T, ∀ x ∈ es, [(g x).1, (g x).2.1].Perm ([(f x).1, (f x).2.1].map ρ)) (p k : Nat) :
    posCount flop' (T.map (List.map g)) p k t' r' = posCount flop (T.map (List.map f)) p k t r :=
  posCount_congr (product T) (List.map f) (List.map g)
    (by rw [IterLemmas.product_map]) (by rw [IterLemmas.product_map]) fun ch hch =>
      dealOK_map hρ hb f g ch (fun x hx => by
        obtain ⟨es, hes, hxe⟩ := IterLemmas.mem_of_mem_product hch x hx
        exact h es hes x hxe) p k

theorem posCount_symm (flop : List Nat) (entries : List (List (Nat × Nat × W))) (p k t r : Nat) :
    posCount flop entries p k t r = posCount flop entries p k r t := by
  simpa using posCount_map .id
    (by rw [List.map_id]; exact List.Perm.append_left flop (List.Perm.swap r t [])) entries id id
    (fun _ _ _ _ => by simp) p k

theorem range_relabel (σ : Nat → Nat) (hσ : SuitPerm σ) : ((List.range 52).map (relabel σ)).Perm (List.range 52) :=
  Lemmas.perm_of_nodup_of_subset ((nodup_map_relabel σ hσ _).mpr List.nodup_range)
    (List.forall_mem_map.mpr fun m hm => List.mem_range.mpr (relabel_lt σ hσ m (List.mem_range.mp hm))) (by simp)

/-- the deck is what the flop leaves of the 52 codes, and these the relabelling permutes -/
theorem deck49_relabel (σ : Nat → Nat) (hσ : SuitPerm σ) (flop : List Nat) :
    (deck49 (flop.map (relabel σ))).Perm ((deck49 flop).map (relabel σ)) := by
  unfold deck49
  refine ((range_relabel σ hσ).filter _).symm.trans ?_
  rw [List.filter_map]
  refine .of_eq (congrArg _ (List.filter_congr fun c _ => congrArg (!·) (Bool.eq_iff_iff.mpr ?_)))
  simp only [List.contains_iff_mem, List.mem_map]
  exact ⟨fun ⟨m, hm, e⟩ => relabel_inj σ hσ _ _ e ▸ hm, fun h => ⟨c, h, rfl⟩⟩

/-- over the full scope the tally is a sum over the unordered pairs of the deck -/
theorem tally_eq_pairSum {flop : List Nat} (hD : (deck49 flop).length = 49) (E : List (List (Nat × Nat × W)))
    (p k : Nat) : tally flop E p k = pairSum (posCount flop E p k) (deck49 flop) := by
  rw [tally_eq, IterLemmas.positionsBetween_full, sum_allPositions _ _ hD]

/-- the suit invariance for any two inputs whose counts correspond at every pair of turn and river cards: the
deck of the relabelled flop is the relabelled deck up to order, and the count does not depend on which of the
two cards comes as the turn (`pairSum_perm`) -/
theorem tally_relabel (σ : Nat → Nat) (hσ : SuitPerm σ) {flop : List Nat} (hF : C02.WfSpecFlop flop)
    (E E' : List (List (Nat × Nat × W))) (p k : Nat)
    (hpos : ∀ x y, posCount (flop.map (relabel σ)) E' p k (relabel σ x) (relabel σ y) = posCount flop E p k x y) :
    tally (flop.map (relabel σ)) E' p k = tally flop E p k := by
  have hperm := deck49_relabel σ hσ flop
  have hD := hF.deck49_length
  rw [tally_eq_pairSum hD, tally_eq_pairSum (by rw [hperm.length_eq, List.length_map, hD]),
    pairSum_perm _ (posCount_symm _ _ p k) hperm, pairSum_map]
  simp only [hpos]

/-- **C11 (suits).** Applying one permutation of the four suits to the flop and to every range leaves every
player's tally of outright wins (k = 1) and of k-way ties unchanged. -/
theorem C11_suits (σ : Nat → Nat) (hσ : SuitPerm σ) (flop : List Nat) (entries : List (List (Nat × Nat × W)))
    (h : WfSpecInput flop entries) (p k : Nat) :
    tally (flop.map (relabel σ)) (relabelEntries σ entries) p k = tally flop entries p k :=
  tally_relabel σ hσ ⟨h.flop_len, h.flop_nodup, h.flop_lt⟩ _ _ p k fun t r => by
    simpa [relabelEntries] using posCount_map hσ.renaming (by simp)
      entries id (fun e => (relabel σ e.1, relabel σ e.2.1, e.2.2)) (fun _ _ _ _ => by simp) p k

/-- **C11 (players).** Exchanging two neighbouring players exchanges their tallies and leaves the others'
unchanged (neighbour exchanges generate every reordering of the players). -/
theorem C11_players (flop : List Nat) (entries : List (List (Nat × Nat × W))) (i : Nat) (hi : i + 1 < entries.length)
    (p k : Nat) :
    tally flop (swapAt i entries) (swapIdx i p) k = tally flop entries p k :=
  tally_congr fun t r => posCount_congr (product entries) id (swapAt i) (by simp) (product_swapAt i entries hi)
    fun ch hch => dealOK_swap flop i p k t r ch (by rw [((IterLemmas.mem_product_iff _ _).mp hch).1]; exact hi)

/-- **C11 (pot).** In every deal with at least one player the number of flagged players is at least one, and it is
the `k` under which each of them is tallied: `k` shares of `1/k` make exactly one pot. -/
theorem C11_pot (flop : List Nat) (d : Deal W) (hne : d.choice ≠ []) :
    1 ≤ (dealWins flop d).countP id
    ∧ ((dealWins flop d).filter id).length = (dealWins flop d).countP id := by
  refine ⟨Lemmas.winnersOf_pos ?_, List.countP_eq_length_filter.symm⟩
  unfold dealHands
  exact fun h0 => hne (List.map_eq_nil_iff.mp h0)

theorem toSpec_code (c : Card) (hv : c.valid = true) : C01.toSpec c = cardOfCode c.code := by
  have := (Card.valid_iff c).mp hv
  simp only [C01.toSpec, cardOfCode, Card.code, Prod.mk.injEq]
  omega

theorem toSpec_ofCode (n : Nat) : C01.toSpec (Card.ofCode n) = cardOfCode n := rfl

/-- the hands of a deal are the best classes of the players' seven cards in the showdown the deal stands for
(`C02.showdownOfDeal`: hole cards and board from the codes) -/
theorem dealHands_eq (flop : List Card) (hv : ∀ c ∈ flop, c.valid = true) (d : Deal W) :
    dealHands (flop.map Card.code) d = d.choice.map fun c =>
      best ((sevenCards ⟨Card.ofCode c.1, Card.ofCode c.2.1⟩
        (flop ++ [Card.ofCode d.turn, Card.ofCode d.river])).map C01.toSpec) := by
  have ef : flop.map C01.toSpec = (flop.map Card.code).map cardOfCode := by
    rw [List.map_map]
    exact List.map_congr_left fun c hc => toSpec_code c (hv c hc)
  unfold dealHands
  simp only [sevenCards, List.map_cons, List.map_append, List.map_nil, toSpec_ofCode, ef]

open EspadaVerif.IterLemmas in
/-- the showdown a deal stands for carries the specification's hands, hence (`sdOf_win`) its winner flags: both
sides evaluate the same seven cards, legal deal or not -/
theorem sdOf_hand (ops : WOps W) (flop : List Card) (hv : ∀ c ∈ flop, c.valid = true) (d : Deal W) :
    (sdOf ops flop d).players.map (·.hand) = dealHands (flop.map Card.code) d :=
  (C03.ruled_hand _ _).trans ((List.map_map ..).trans (dealHands_eq flop hv d).symm)

open EspadaVerif.IterLemmas in
theorem sdOf_win (ops : WOps W) (flop : List Card) (hv : ∀ c ∈ flop, c.valid = true) (d : Deal W) :
    (sdOf ops flop d).players.map (·.win) = dealWins (flop.map Card.code) d := by
  rw [dealWins, ← sdOf_hand ops flop hv d]
  exact (C03.ruled_win _ _).trans (congrArg winnersOf (C03.ruled_hand _ _).symm)

open EspadaVerif.IterLemmas in
/-- the iterator's showdown of a legal deal carries exactly the specification's hands and winner flags -/
theorem C11_model_flags (ops : WOps W) (flop : List Card) (ranges : List (List (Combo × W))) (a b : Nat × Nat)
    (h : C02.WfInput flop ranges) (d : Deal W)
    (hd : d ∈ deals (flop.map Card.code) (C02.specEntries ranges) a b) :
    ∃ sd : Showdown W, C02.showdownOfDeal ops flop d = .ok (some sd)
      ∧ sd.players.map (·.hand) = dealHands (flop.map Card.code) d
      ∧ sd.players.map (·.win) = dealWins (flop.map Card.code) d :=
  ⟨_, showdownOfDeal_mem ops h.wfFlop h.rv hd, sdOf_hand ops flop h.flop_valid d, sdOf_win ops flop h.flop_valid d⟩

/-- `k` winners each taking `1/k` of the pot take exactly one pot -/
theorem C11_pot_shares (k : Nat) (hk : 1 ≤ k) : (k : Rat) * (1 / (k : Rat)) = 1 := by
  rw [Rat.div_def, Rat.one_mul, Rat.mul_inv_cancel _ (mt Rat.natCast_eq_zero_iff.mp (by omega))]

end EspadaVerif.C11
