/-
C04 (model side) — what `Props/C04.lean` leaves implicit: that the public `scope()` call is what `mkEvaluator`
stands for (its three `debug_assert!`s never fire on a valid scope, the last call wins), and that the tiling of
`Spec.deals` holds of the drains of the MODEL's iterator (`intoIter`, `next`, `drainFuel`): a scoped drain is a
contiguous part of the unscoped one, the drains of a chain of scopes concatenate.

`IsDrain ops e sds` is literally the drain clause of `C02.C02_refines`; on a valid scope it says
`sds = drainOf … a b` (`isDrain_iff`), and the statements about drains become statements about the intervals
`positionsBetween a b` that `drainOf` maps over.
-/
import EspadaVerif.Props.C04
import EspadaVerif.Props.Witness.Common
import EspadaVerif.Lemmas.Decide


namespace EspadaVerif.C04
open Spec C02 EspadaVerif.IterLemmas

variable {W : Type}

/-- **C04 (`scope()` on any evaluator).** On a valid scope `scope()` returns normally — whether the
`debug_assert!`s are compiled in (`dbg = true`) or not — and stores exactly the four numbers. -/
theorem C04_scope_any (e : Evaluator W) (a b : Nat × Nat) (hs : ValidScope a b) (dbg : Bool) :
    e.scope a.1 a.2 b.1 b.2 dbg
      = .ok { e with turnFrom := a.1, riverFrom := a.2, turnTo := b.1, riverTo := b.2 } := by
  apply scope_eq
  intro _
  have h1 := validPos_bounds hs.from_valid
  have h2 := validPos_bounds hs.to_valid
  have h3 := (posLe_iff _ _).mp hs.ordered
  omega

/-- in a release build `scope()` never traps, whatever the arguments -/
theorem C04_scope_release (e : Evaluator W) (tf rf tt rt : Nat) :
    e.scope tf rf tt rt false = .ok { e with turnFrom := tf, riverFrom := rf, turnTo := tt, riverTo := rt } :=
  scope_eq e tf rf tt rt false (fun h => nomatch h)

/-- **C04 (the last `scope()` call wins).** Whatever scope an evaluator had before, a `scope()` call with a
valid scope `[c, d)` makes it the evaluator scoped to `[c, d)`. -/
theorem C04_rescope_last (flop : List Card) (ranges : List (List (Combo × W))) (a b c d : Nat × Nat)
    (hs : ValidScope c d) (dbg : Bool) :
    (mkEvaluator flop ranges a b).scope c.1 c.2 d.1 d.2 dbg = .ok (mkEvaluator flop ranges c d) := by
  rw [C04_scope_any _ c d hs dbg]
  rfl

/-- **C04 (`scope()` is `mkEvaluator`).** `FlopExhaustiveEvaluator::new(board, ranges)` followed by
`scope(a.0, a.1, b.0, b.1)` with a valid scope is the evaluator the theorems call `mkEvaluator flop ranges a b`;
the call returns normally in debug and release builds alike. -/
theorem C04_scope_ok (flop : List Card) (ranges : List (List (Combo × W))) (a b : Nat × Nat)
    (hs : ValidScope a b) (dbg : Bool) :
    (Evaluator.new (flop.map some ++ [none, none]) ranges).scope a.1 a.2 b.1 b.2 dbg
      = .ok (mkEvaluator flop ranges a b) :=
  C04_rescope_last flop ranges (0, 1) (48, 49) a b hs dbg

theorem C04_scope_twice (flop : List Card) (ranges : List (List (Combo × W))) (a b c d : Nat × Nat)
    (h1 : ValidScope a b) (h2 : ValidScope c d) (dbg1 dbg2 : Bool) :
    ∃ e₁, (Evaluator.new (flop.map some ++ [none, none]) ranges).scope a.1 a.2 b.1 b.2 dbg1 = .ok e₁
      ∧ e₁.scope c.1 c.2 d.1 d.2 dbg2 = .ok (mkEvaluator flop ranges c d) :=
  ⟨_, C04_scope_ok flop ranges a b h1 dbg1, C04_rescope_last flop ranges a b c d h2 dbg2⟩

/-- `scope()` call after `scope()` call, until one traps -/
def scopeAll (dbg : Bool) : Evaluator W → List ((Nat × Nat) × (Nat × Nat)) → Res (Evaluator W)
  | e, [] => .ok e
  | e, (x :: xs) =>
    match e.scope x.1.1 x.1.2 x.2.1 x.2.2 dbg with
    | .ok e' => scopeAll dbg e' xs
    | .err => .err
    | .panic => .panic

/-- any number of calls, all in one build mode: over valid scopes the result is the evaluator of the last one
(of the scope one started with, when there is no call) -/
theorem C04_scope_many (flop : List Card) (ranges : List (List (Combo × W))) (dbg : Bool) :
    ∀ (xs : List ((Nat × Nat) × (Nat × Nat))) (ab : (Nat × Nat) × (Nat × Nat)),
      (∀ x ∈ xs, ValidScope x.1 x.2) →
      scopeAll dbg (mkEvaluator flop ranges ab.1 ab.2) xs
        = .ok (mkEvaluator flop ranges ((ab :: xs).getLast (by simp)).1 ((ab :: xs).getLast (by simp)).2) := by
  intro xs
  induction xs with
  | nil => intro ab _; rfl
  | cons x xs ih =>
    intro ab h
    obtain ⟨hx, hxs⟩ := List.forall_mem_cons.mp h
    simp only [scopeAll, C04_rescope_last flop ranges ab.1 ab.2 x.1 x.2 hx dbg]
    rw [ih x hxs, List.getLast_cons_cons]

/-- on well-formed input the evaluator scoped to a valid `[a, b)` has a drain and only one: the rows of the
positions `a ≤ p < b` -/
theorem isDrain_iff (ops : WOps W) {flop : List Card} {ranges : List (List (Combo × W))} (h : WfInput flop ranges)
    {a b : Nat × Nat} (hs : ValidScope a b) {sds : List (Showdown W)} :
    IsDrain ops (mkEvaluator flop ranges a b) sds ↔ sds = drainOf ops flop ranges a b :=
  have hd := scope_drain ops h.wfFlop h.rv hs
  ⟨fun hx => hx.unique hd, fun e => e ▸ hd⟩

/-- whatever list is the drain (`IsDrain`) of a validly scoped evaluator, it lists the showdowns of the
specification's deals of that scope: the middle clause of `C02_refines`, for any drain -/
theorem drain_deals (ops : WOps W) (flop : List Card) (ranges : List (List (Combo × W))) (a b : Nat × Nat)
    (h : WfInput flop ranges) (hs : ValidScope a b) (sds : List (Showdown W))
    (hd : IsDrain ops (mkEvaluator flop ranges a b) sds) :
    (deals (flop.map Card.code) (specEntries ranges) a b).map (showdownOfDeal ops flop)
      = sds.map (fun sd => .ok (some sd)) := by
  rw [(isDrain_iff ops h hs).mp hd]
  exact deals_map_drainOf ops a b h.wfFlop h.rv

/-- **C04 (a scoped evaluator yields a contiguous part of the unscoped run).**  Let `full` be the drain of the
UNSCOPED evaluator `FlopExhaustiveEvaluator::new(board, ranges)`, `pre` the drain of the scope `[(0,1), a)`,
`sds` the drain of the scope `[a, b)` and `post` the drain of the scope `[b, (48,49))`.  All four drains exist
(first part) and, whatever they are, `full = pre ++ sds ++ post` (second part): the scoped evaluator yields
exactly the showdowns of the unscoped run from index `pre.length` on, in the same order. -/
theorem C04_scoped_sublist (ops : WOps W) (flop : List Card) (ranges : List (List (Combo × W))) (a b : Nat × Nat)
    (h : WfInput flop ranges) (hs : ValidScope a b) :
    (∃ full pre sds post,
        IsDrain ops (Evaluator.new (flop.map some ++ [none, none]) ranges) full
        ∧ IsDrain ops (mkEvaluator flop ranges (0, 1) a) pre
        ∧ IsDrain ops (mkEvaluator flop ranges a b) sds
        ∧ IsDrain ops (mkEvaluator flop ranges b (48, 49)) post)
    ∧ ∀ full pre sds post,
        IsDrain ops (Evaluator.new (flop.map some ++ [none, none]) ranges) full →
        IsDrain ops (mkEvaluator flop ranges (0, 1) a) pre →
        IsDrain ops (mkEvaluator flop ranges a b) sds →
        IsDrain ops (mkEvaluator flop ranges b (48, 49)) post →
        full = pre ++ sds ++ post := by
  have ha := ValidScope.before hs.from_valid
  have hb := ValidScope.after hs.to_valid
  simp only [C04_default_scope, isDrain_iff ops h ValidScope.full, isDrain_iff ops h ha, isDrain_iff ops h hs,
    isDrain_iff ops h hb]
  refine ⟨⟨_, _, _, _, rfl, rfl, rfl, rfl⟩, ?_⟩
  rintro _ _ _ _ rfl rfl rfl rfl
  rw [drainOf_append ops flop ranges ha.ordered hs.ordered,
    drainOf_append ops flop ranges (posLe_trans ha.ordered hs.ordered) hb.ordered]

/-- **C04 (position by position).**  There is one list of showdowns per position (`rowOf`, independent of the
scope) such that the evaluator scoped to `[a, b)` yields the rows of the positions `a ≤ p < b` in lexicographic
order, and the unscoped evaluator the rows of all 1176 positions: the scoped run is the unscoped run restricted
to those positions. -/
theorem C04_scoped_rows (ops : WOps W) (flop : List Card) (ranges : List (List (Combo × W)))
    (h : WfInput flop ranges) :
    IsDrain ops (Evaluator.new (flop.map some ++ [none, none]) ranges)
        (allPositions.flatMap (rowOf ops flop ranges))
    ∧ ∀ a b, ValidScope a b →
        IsDrain ops (mkEvaluator flop ranges a b)
          ((allPositions.filter fun p => posLe a p && posLt p b).flatMap (rowOf ops flop ranges)) :=
  ⟨(isDrain_iff ops h ValidScope.full).mpr (by rw [drainOf, positionsBetween_full]),
    fun _ _ hs => (isDrain_iff ops h hs).mpr rfl⟩

/-- the drains of the evaluators scoped to `[p₀, c₁)`, `[c₁, c₂)`, … (one list per piece) -/
def IsChainDrain (ops : WOps W) (flop : List Card) (ranges : List (List (Combo × W))) :
    Nat × Nat → List (Nat × Nat) → List (List (Showdown W)) → Prop
  | _, [], pieces => pieces = []
  | p, c :: cs, pieces =>
    ∃ d rest, pieces = d :: rest ∧ IsDrain ops (mkEvaluator flop ranges p c) d
      ∧ IsChainDrain ops flop ranges c cs rest

/-- the pieces of a chain of valid scopes are the explicit drains of its scopes, and nothing else -/
theorem isChainDrain_iff (ops : WOps W) (flop : List Card) (ranges : List (List (Combo × W)))
    (h : WfInput flop ranges) :
    ∀ (cuts : List (Nat × Nat)) (p₀ : Nat × Nat) (pieces : List (List (Showdown W))),
      (∀ xy ∈ (p₀ :: cuts).zip cuts, ValidScope xy.1 xy.2) →
      (IsChainDrain ops flop ranges p₀ cuts pieces
        ↔ pieces = ((p₀ :: cuts).zip cuts).map fun xy => drainOf ops flop ranges xy.1 xy.2)
  | [], _, _, _ => Iff.rfl
  | c :: cs, p₀, pieces, hchain => by
    obtain ⟨hc, hcs⟩ := List.forall_mem_cons.mp hchain
    simp only [IsChainDrain, isDrain_iff ops h hc, isChainDrain_iff ops flop ranges h cs c _ hcs]
    exact ⟨by rintro ⟨_, _, rfl, rfl, rfl⟩; rfl, fun e => ⟨_, _, e, rfl, rfl⟩⟩

theorem IsChainDrain.length {ops : WOps W} {flop : List Card} {ranges : List (List (Combo × W))} :
    ∀ {cuts : List (Nat × Nat)} {p₀ : Nat × Nat} {x : List (List (Showdown W))},
      IsChainDrain ops flop ranges p₀ cuts x → x.length = cuts.length := by
  intro cuts
  induction cuts with
  | nil => exact fun hx => congrArg List.length (show _ = [] from hx)
  | cons c cs ih =>
    rintro _ _ ⟨_, _, rfl, _, hrest⟩
    exact congrArg (· + 1) (ih hrest)

/-- **C04 (chain, on the model).**  Take cut points `p₀ :: cuts` in which every consecutive pair is a valid
scope, and run one scoped evaluator per consecutive pair.  Then (1) every one of these evaluators has a drain
(`pieces`: one list per evaluator, in chain order) and so has the evaluator scoped from `p₀` to the last cut;
(2) whatever these drains are, the concatenation of the pieces IS the drain of the evaluator scoped from `p₀`
to the last cut, and there is one piece per cut. -/
theorem C04_chain_model (ops : WOps W) (flop : List Card) (ranges : List (List (Combo × W)))
    (p₀ : Nat × Nat) (cuts : List (Nat × Nat)) (h : WfInput flop ranges)
    (hchain : ∀ xy ∈ (p₀ :: cuts).zip cuts, ValidScope xy.1 xy.2) :
    (∃ pieces whole, IsChainDrain ops flop ranges p₀ cuts pieces
        ∧ IsDrain ops (mkEvaluator flop ranges p₀ ((p₀ :: cuts).getLast (by simp))) whole)
    ∧ ∀ pieces whole, IsChainDrain ops flop ranges p₀ cuts pieces →
        IsDrain ops (mkEvaluator flop ranges p₀ ((p₀ :: cuts).getLast (by simp))) whole →
        pieces.flatten = whole ∧ pieces.length = cuts.length := by
  -- the evaluator from `p₀` to the last cut has a drain, the concatenation of the explicit pieces; without cuts
  -- `p₀` need not be a position at all
  obtain ⟨w, hw, hflat⟩ : ∃ w, IsDrain ops (mkEvaluator flop ranges p₀ ((p₀ :: cuts).getLast (by simp))) w
      ∧ (((p₀ :: cuts).zip cuts).map fun xy => drainOf ops flop ranges xy.1 xy.2).flatten = w := by
    cases cuts with
    | nil =>  -- the stop test holds at once
      exact ⟨[], ⟨_, _, intoIter_eq flop ranges p₀ p₀ h.wfFlop, (Halts.nil (step_done ops ⟨Nat.le_refl _, Nat.le_refl _⟩)).drain⟩, rfl⟩
    | cons c cs =>
      obtain ⟨hpos, hscope⟩ := ValidScope.chain (c :: cs) p₀ hchain
      refine ⟨_, scope_drain ops h.wfFlop h.rv (hscope (hchain (p₀, c) (by simp)).from_valid), ?_⟩
      rw [← List.flatMap_def]
      exact Lemmas.flatMap_pieces hpos _
  have hiff := fun pieces => isChainDrain_iff ops flop ranges h cuts p₀ pieces hchain
  refine ⟨⟨_, w, (hiff _).mpr rfl, hw⟩, fun pieces whole hpieces hwhole => ⟨?_, hpieces.length⟩⟩
  rw [(hiff pieces).mp hpieces, hwhole.unique hw, hflat]

/-- **C04 (chain covering everything, on the model).**  When the chain starts at `(0,1)` and its last cut is
`(48,49)`, the pieces concatenate to the drain of the UNSCOPED evaluator. -/
theorem C04_chain_full (ops : WOps W) (flop : List Card) (ranges : List (List (Combo × W)))
    (cuts : List (Nat × Nat)) (h : WfInput flop ranges)
    (hchain : ∀ xy ∈ ((0, 1) :: cuts).zip cuts, ValidScope xy.1 xy.2)
    (hlast : ((0, 1) :: cuts).getLast (by simp) = (48, 49))
    (pieces : List (List (Showdown W))) (full : List (Showdown W))
    (hpieces : IsChainDrain ops flop ranges (0, 1) cuts pieces)
    (hfull : IsDrain ops (Evaluator.new (flop.map some ++ [none, none]) ranges) full) :
    pieces.flatten = full ∧ pieces.length = cuts.length := by
  rw [C04_default_scope, ← hlast] at hfull
  exact (C04_chain_model ops flop ranges (0, 1) cuts h hchain).2 pieces full hpieces hfull

/-- index `i` of `L.flatten` is index `j` of exactly one piece `k`, namely the one with
`(L.take k).flatten.length ≤ i < (L.take (k+1)).flatten.length`, `j = i - (L.take k).flatten.length` -/
theorem flatten_index {α : Type} (L : List (List α)) :
    ∀ (i : Nat), i < L.flatten.length →
      ∃ k j piece, L[k]? = some piece ∧ j < piece.length ∧ i = (L.take k).flatten.length + j
        ∧ piece[j]? = L.flatten[i]?
        ∧ ∀ k' j' piece', L[k']? = some piece' → j' < piece'.length →
            i = (L.take k').flatten.length + j' → k' = k ∧ j' = j := by
  induction L with
  | nil => exact fun i hi => absurd hi (Nat.not_lt_zero i)
  | cons x xs ih =>
    intro i hi
    -- piece 0 of `x :: xs` is `x` at offset 0; piece `k + 1` is piece `k` of `xs`, `x.length` further on
    have off : ∀ k, ((x :: xs).take (k + 1)).flatten.length = x.length + (xs.take k).flatten.length :=
      fun _ => List.length_append
    rcases Nat.lt_or_ge i x.length with hx | hx
    · refine ⟨0, i, x, rfl, hx, (Nat.zero_add i).symm, (List.getElem?_append_left hx).symm, ?_⟩
      rintro (_ | k') j' piece' hk' hj' hi'
      · exact ⟨rfl, (hi'.trans (Nat.zero_add j')).symm⟩
      · rw [off] at hi'
        omega
    · rw [List.flatten_cons, List.length_append] at hi
      obtain ⟨k, j, piece, h1, h2, h3, h4, h5⟩ := ih (i - x.length) (by omega)
      refine ⟨k + 1, j, piece, h1, h2, by rw [off]; omega, h4.trans (List.getElem?_append_right hx).symm, ?_⟩
      rintro (_ | k') j' piece' hk' hj' hi'
      · cases hk'
        exact absurd (hi'.trans (Nat.zero_add j')) (by omega)
      · rw [off] at hi'
        obtain ⟨rfl, rfl⟩ := h5 k' j' piece' hk' hj' (by omega)
        exact ⟨rfl, rfl⟩

/-- **C04 (exactly one piece).**  With the chain from `(0,1)` to `(48,49)`: the `i`-th showdown of the full run
is the `j`-th showdown of the `k`-th worker for exactly one pair `(k, j)`, and `i` is `j` plus the number of
showdowns of the workers before `k` — nothing is lost, nothing is yielded twice, the order is kept. -/
theorem C04_chain_exactly_once (ops : WOps W) (flop : List Card) (ranges : List (List (Combo × W)))
    (cuts : List (Nat × Nat)) (h : WfInput flop ranges)
    (hchain : ∀ xy ∈ ((0, 1) :: cuts).zip cuts, ValidScope xy.1 xy.2)
    (hlast : ((0, 1) :: cuts).getLast (by simp) = (48, 49))
    (pieces : List (List (Showdown W))) (full : List (Showdown W))
    (hpieces : IsChainDrain ops flop ranges (0, 1) cuts pieces)
    (hfull : IsDrain ops (Evaluator.new (flop.map some ++ [none, none]) ranges) full)
    (i : Nat) (hi : i < full.length) :
    ∃ k j piece, pieces[k]? = some piece ∧ j < piece.length
      ∧ i = (pieces.take k).flatten.length + j ∧ piece[j]? = full[i]?
      ∧ ∀ k' j' piece', pieces[k']? = some piece' → j' < piece'.length →
          i = (pieces.take k').flatten.length + j' → k' = k ∧ j' = j := by
  obtain ⟨hflat, _⟩ := C04_chain_full ops flop ranges cuts h hchain hlast pieces full hpieces hfull
  rw [← hflat] at hi ⊢
  exact flatten_index pieces i hi

/-! ### non-vacuity: the theorems at concrete data

Flop A♠ K♦ 7♣, two weighted two-combo ranges (weights in `Nat`), the worker cuts
(0,1) → (6,10) → (13,22) → (48,49); the one-position pieces (46,47) → (46,48) → (47,48) → (48,49) (`smallCuts`) are
run in the kernel by the last example. -/
namespace ModelWitness
open EspadaVerif.Witness

def flop : List Card := [⟨0, 0⟩, ⟨1, 2⟩, ⟨7, 3⟩]
def ranges : List (List (Combo × Nat)) :=
  [[(⟨⟨2, 0⟩, ⟨2, 1⟩⟩, 2), (⟨⟨0, 1⟩, ⟨1, 1⟩⟩, 3)], [(⟨⟨3, 0⟩, ⟨4, 0⟩⟩, 1), (⟨⟨2, 1⟩, ⟨3, 1⟩⟩, 5)]]
def cuts : List (Nat × Nat) := [(6, 10), (13, 22), (48, 49)]
def smallCuts : List (Nat × Nat) := [(46, 48), (47, 48), (48, 49)]

theorem wf : WfInput flop ranges := by decide
theorem scope_mid : ValidScope (6, 10) (13, 22) := by decide
theorem chain_ok : ∀ xy ∈ ((0, 1) :: cuts).zip cuts, ValidScope xy.1 xy.2 := by decide
theorem smallChain_ok : ∀ xy ∈ ((46, 47) :: smallCuts).zip smallCuts, ValidScope xy.1 xy.2 := by decide

example (dbg : Bool) : (Evaluator.new (flop.map some ++ [none, none]) ranges).scope 6 10 13 22 dbg
    = .ok (mkEvaluator flop ranges (6, 10) (13, 22)) :=
  C04_scope_ok flop ranges (6, 10) (13, 22) scope_mid dbg
example (dbg : Bool) : (Evaluator.new (flop.map some ++ [none, none]) ranges).scope 6 10 6 10 dbg
    = .ok (mkEvaluator flop ranges (6, 10) (6, 10)) :=
  C04_scope_ok flop ranges (6, 10) (6, 10) (by decide) dbg
example (dbg : Bool) : (Evaluator.new (flop.map some ++ [none, none]) ranges).scope 48 49 48 49 dbg
    = .ok (mkEvaluator flop ranges (48, 49) (48, 49)) :=
  C04_scope_ok flop ranges (48, 49) (48, 49) (by decide) dbg
example (dbg : Bool) : (Evaluator.new (flop.map some ++ [none, none]) ranges).scope 13 22 48 49 dbg
    = .ok (mkEvaluator flop ranges (13, 22) (48, 49)) :=
  C04_scope_ok flop ranges (13, 22) (48, 49) (by decide) dbg
example (dbg : Bool) : (Evaluator.new (flop.map some ++ [none, none]) ranges).scope 0 1 48 49 dbg
    = .ok (Evaluator.new (flop.map some ++ [none, none]) ranges) :=
  C04_scope_ok flop ranges (0, 1) (48, 49) ValidScope.full dbg
/-- the same by evaluating the model of `scope()` (debug build) -/
example : (Evaluator.new (flop.map some ++ [none, none]) ranges).scope 6 10 13 22 true
    = .ok (mkEvaluator flop ranges (6, 10) (13, 22)) := rfl
/-- the hypothesis matters in a debug build only: a backwards scope traps there and is stored in release -/
example : (Evaluator.new (flop.map some ++ [none, none]) ranges).scope 13 22 6 10 true = .panic := rfl
example : (Evaluator.new (flop.map some ++ [none, none]) ranges).scope 13 22 6 10 false
    = .ok (mkEvaluator flop ranges (13, 22) (6, 10)) := C04_scope_release _ 13 22 6 10

/-- the last call wins: first an arbitrary (even ill-formed) scope, then a valid one -/
example (dbg : Bool) : (mkEvaluator flop ranges (40, 3) (2, 1)).scope 6 10 13 22 dbg
    = .ok (mkEvaluator flop ranges (6, 10) (13, 22)) :=
  C04_rescope_last flop ranges (40, 3) (2, 1) (6, 10) (13, 22) scope_mid dbg
example : ∃ e₁, (Evaluator.new (flop.map some ++ [none, none]) ranges).scope 0 1 6 10 true = .ok e₁
    ∧ e₁.scope 6 10 13 22 false = .ok (mkEvaluator flop ranges (6, 10) (13, 22)) :=
  C04_scope_twice flop ranges (0, 1) (6, 10) (6, 10) (13, 22)
    (by decide) scope_mid true false
example : scopeAll true (mkEvaluator flop ranges (0, 1) (48, 49)) [((0, 1), (6, 10)), ((13, 22), (48, 49)), ((6, 10), (13, 22))]
    = .ok (mkEvaluator flop ranges (6, 10) (13, 22)) :=
  C04_scope_many flop ranges true _ ((0, 1), (48, 49)) (by decide)

theorem C04_scoped_sublist_at_witness :
    (∃ full pre sds post,
        IsDrain natOps (Evaluator.new (flop.map some ++ [none, none]) ranges) full
        ∧ IsDrain natOps (mkEvaluator flop ranges (0, 1) (6, 10)) pre
        ∧ IsDrain natOps (mkEvaluator flop ranges (6, 10) (13, 22)) sds
        ∧ IsDrain natOps (mkEvaluator flop ranges (13, 22) (48, 49)) post)
    ∧ ∀ full pre sds post,
        IsDrain natOps (Evaluator.new (flop.map some ++ [none, none]) ranges) full →
        IsDrain natOps (mkEvaluator flop ranges (0, 1) (6, 10)) pre →
        IsDrain natOps (mkEvaluator flop ranges (6, 10) (13, 22)) sds →
        IsDrain natOps (mkEvaluator flop ranges (13, 22) (48, 49)) post →
        full = pre ++ sds ++ post :=
  C04_scoped_sublist natOps flop ranges (6, 10) (13, 22) wf scope_mid

/-- closed consequence: the scoped drain sits inside the unscoped one at offset `pre.length` -/
example : ∃ full pre sds post : List (Showdown Nat),
    IsDrain natOps (Evaluator.new (flop.map some ++ [none, none]) ranges) full
    ∧ IsDrain natOps (mkEvaluator flop ranges (6, 10) (13, 22)) sds
    ∧ (full.drop pre.length).take sds.length = sds ∧ full.length = pre.length + sds.length + post.length := by
  obtain ⟨⟨full, pre, sds, post, h0, h1, h2, h3⟩, hall⟩ := C04_scoped_sublist_at_witness
  cases hall full pre sds post h0 h1 h2 h3
  exact ⟨_, pre, sds, post, h0, h2, by simp, by simp only [List.length_append]⟩

example : IsDrain natOps (Evaluator.new (flop.map some ++ [none, none]) ranges)
    (allPositions.flatMap (rowOf natOps flop ranges)) :=
  (C04_scoped_rows natOps flop ranges wf).1

theorem C04_chain_model_at_witness :
    (∃ pieces whole, IsChainDrain natOps flop ranges (0, 1) cuts pieces
        ∧ IsDrain natOps (mkEvaluator flop ranges (0, 1) (((0, 1) :: cuts).getLast (by simp))) whole)
    ∧ ∀ pieces whole, IsChainDrain natOps flop ranges (0, 1) cuts pieces →
        IsDrain natOps (mkEvaluator flop ranges (0, 1) (((0, 1) :: cuts).getLast (by simp))) whole →
        pieces.flatten = whole ∧ pieces.length = cuts.length :=
  C04_chain_model natOps flop ranges (0, 1) cuts wf chain_ok

/-- closed form: three workers; their drains `d₁ d₂ d₃` concatenate to the drain of the unscoped evaluator -/
theorem C04_chain_closed (d₁ d₂ d₃ full : List (Showdown Nat))
    (h1 : IsDrain natOps (mkEvaluator flop ranges (0, 1) (6, 10)) d₁)
    (h2 : IsDrain natOps (mkEvaluator flop ranges (6, 10) (13, 22)) d₂)
    (h3 : IsDrain natOps (mkEvaluator flop ranges (13, 22) (48, 49)) d₃)
    (hfull : IsDrain natOps (Evaluator.new (flop.map some ++ [none, none]) ranges) full) :
    d₁ ++ (d₂ ++ d₃) = full := by
  have hp : IsChainDrain natOps flop ranges (0, 1) cuts [d₁, d₂, d₃] :=
    ⟨d₁, _, rfl, h1, d₂, _, rfl, h2, d₃, _, rfl, h3, rfl⟩
  have := (C04_chain_full natOps flop ranges cuts wf chain_ok rfl [d₁, d₂, d₃] full hp hfull).1
  simpa using this

example (pieces : List (List (Showdown Nat))) (full : List (Showdown Nat))
    (hp : IsChainDrain natOps flop ranges (0, 1) cuts pieces)
    (hfull : IsDrain natOps (Evaluator.new (flop.map some ++ [none, none]) ranges) full)
    (i : Nat) (hi : i < full.length) :
    ∃ k j piece, pieces[k]? = some piece ∧ j < piece.length
      ∧ i = (pieces.take k).flatten.length + j ∧ piece[j]? = full[i]?
      ∧ ∀ k' j' piece', pieces[k']? = some piece' → j' < piece'.length →
          i = (pieces.take k').flatten.length + j' → k' = k ∧ j' = j :=
  C04_chain_exactly_once natOps flop ranges cuts wf chain_ok rfl pieces full hp hfull i hi

/-- run the model (kernel): collect `next()` until `None`, with room for 50 showdowns -/
def runDrain (a b : Nat × Nat) : Option (List (Showdown Nat)) :=
  match (mkEvaluator flop ranges a b).intoIter with
  | .ok s =>
    match drainFuel natOps 50 s [] with
    | .ok (l, _) => some l
    | _ => none
  | _ => none

/-- cross-check by running the iterator model itself: three one-position workers (three showdowns each, one
blocked deal skipped per position) against the evaluator scoped to the three positions -/
example : (runDrain (46, 47) (46, 48)).map List.length = some 3
    ∧ (runDrain (46, 48) (47, 48)).map List.length = some 3
    ∧ (runDrain (47, 48) (48, 49)).map List.length = some 3
    ∧ (match runDrain (46, 47) (46, 48), runDrain (46, 48) (47, 48), runDrain (47, 48) (48, 49) with
        | some x, some y, some z => some (x ++ y ++ z)
        | _, _, _ => none) = runDrain (46, 47) (48, 49) := by
  decide +kernel

end ModelWitness

end EspadaVerif.C04
