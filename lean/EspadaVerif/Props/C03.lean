/-
C03 — A showdown flags exactly the players holding the strongest hand as winners.

`showdownNew` is the executable model of `Showdown::new` (single pass keeping the minimum power
index and the set of positions attaining it, then the flag pass).  The theorems are stated for
every board of five distinct cards and every list of players (any length) whose hole cards are
two different valid cards.

Everything rests on one equation, `showdownNew_of_eval` (`showdownNew_eq` at such a table): there is no showdown
when somebody collides with the board, else it is `ruled`, the list of the players with the class of their own
best hand, each flagged iff no class is smaller.
-/
import EspadaVerif.Model.Showdown
import EspadaVerif.Spec.ShowdownSpec
import EspadaVerif.Props.C01
import EspadaVerif.Lemmas.Winners

namespace EspadaVerif.C03
open Spec

/-- a hole card of the player also lies on the board -/
def collides (board : List Card) (p : Combo) : Bool := board.contains p.fst || board.contains p.snd

structure WfTable (board : List Card) (ps : List Combo) : Prop where
  board_len : board.length = 5
  board_nodup : board.Nodup
  board_valid : ∀ c ∈ board, c.valid = true
  holes : ∀ p ∈ ps, p.fst.valid = true ∧ p.snd.valid = true ∧ p.fst ≠ p.snd

instance WfTable.instDecidable (board : List Card) (ps : List Combo) : Decidable (WfTable board ps) :=
  decidable_of_iff (board.length = 5 ∧ board.Nodup ∧ (∀ c ∈ board, c.valid = true)
      ∧ ∀ p ∈ ps, p.fst.valid = true ∧ p.snd.valid = true ∧ p.fst ≠ p.snd)
    ⟨fun ⟨h₁, h₂, h₃, h₄⟩ => ⟨h₁, h₂, h₃, h₄⟩, fun ⟨h₁, h₂, h₃, h₄⟩ => ⟨h₁, h₂, h₃, h₄⟩⟩

def tableCards (board : List Card) (ps : List Combo) : List Card :=
  board ++ ps.flatMap fun p => [p.fst, p.snd]

theorem nodup_tableCards (board : List Card) (ps : List Combo) :
    (tableCards board ps).Nodup
      ↔ board.Nodup ∧ (ps.flatMap fun p => [p.fst, p.snd]).Nodup ∧ ∀ p ∈ ps, collides board p = false := by
  simp only [tableCards, List.nodup_append, List.mem_flatMap, collides, Bool.or_eq_false_iff,
    List.contains_eq_mem, decide_eq_false_iff_not, List.mem_cons, List.not_mem_nil, or_false]
  refine and_congr_right fun _ => and_congr_right fun _ => ⟨fun h p hp => ?_, ?_⟩
  · exact ⟨fun hb => h _ hb _ ⟨p, hp, .inl rfl⟩ rfl, fun hb => h _ hb _ ⟨p, hp, .inr rfl⟩ rfl⟩
  · rintro h a ha _ ⟨p, hp, rfl | rfl⟩ rfl
    · exact (h p hp).1 ha
    · exact (h p hp).2 ha

theorem tableCards_length (board : List Card) (ps : List Combo) :
    (tableCards board ps).length = board.length + ps.length * 2 := by
  unfold tableCards
  rw [List.length_append, Lemmas.length_flatMap_const ps _ 2 (fun _ _ => rfl)]

theorem tableCards_valid (board : List Card) (ps : List Combo) (h : WfTable board ps) :
    ∀ c ∈ tableCards board ps, c.valid = true := by
  intro c hc
  simp only [tableCards, List.mem_append, List.mem_flatMap, List.mem_cons, List.not_mem_nil, or_false] at hc
  rcases hc with hc | ⟨p, hp, rfl | rfl⟩
  · exact h.board_valid c hc
  · exact (h.holes p hp).1
  · exact (h.holes p hp).2.1

theorem seven_of_hole (board : List Card) (p : Combo) (hb : board.length = 5) (hnd : board.Nodup)
    (hbv : ∀ c ∈ board, c.valid = true) (hp : p.fst.valid = true ∧ p.snd.valid = true ∧ p.fst ≠ p.snd)
    (hc : collides board p = false) : C01.Seven (sevenCards p board) := by
  simp only [collides, Bool.or_eq_false_iff, List.contains_eq_mem, decide_eq_false_iff_not] at hc
  exact ⟨by simp [sevenCards, hb], by simp [sevenCards, hnd, hc, hp.2.2], by simpa [sevenCards, hp] using hbv⟩

theorem WfTable.seven {board : List Card} {ps : List Combo} (h : WfTable board ps) {p : Combo} (hp : p ∈ ps)
    (hc : collides board p = false) : C01.Seven (sevenCards p board) :=
  seven_of_hole board p h.board_len h.board_nodup h.board_valid (h.holes p hp) hc

theorem eval_own_seven (board : List Card) (p : Combo) (hb : board.length = 5) (hnd : board.Nodup)
    (hbv : ∀ c ∈ board, c.valid = true) (hp : p.fst.valid = true ∧ p.snd.valid = true ∧ p.fst ≠ p.snd)
    (hc : collides board p = false) :
    eval7 (sevenCards p board) = .ok (best ((sevenCards p board).map C01.toSpec)) :=
  (seven_of_hole board p hb hnd hbv hp hc).eval

/-- the showdown the rules prescribe: every player with his evaluation, flagged iff nobody's is smaller -/
def ruled (ev : Combo → Nat) (ps : List Combo) : List ShowdownPlayer :=
  ps.map fun p => { hole := p, hand := ev p, win := ps.all fun q => decide (ev p ≤ ev q) }

theorem ruled_length (ev : Combo → Nat) (ps : List Combo) : (ruled ev ps).length = ps.length :=
  List.length_map _

theorem ruled_getElem? (ev : Combo → Nat) (ps : List Combo) (j : Nat) :
    (ruled ev ps)[j]? = ps[j]?.map fun p => ⟨p, ev p, ps.all fun q => decide (ev p ≤ ev q)⟩ :=
  List.getElem?_map

theorem forall_mem_ruled {ev : Combo → Nat} {ps : List Combo} {P : ShowdownPlayer → Prop} :
    (∀ pl ∈ ruled ev ps, P pl) ↔ ∀ p ∈ ps, P ⟨p, ev p, ps.all fun q => decide (ev p ≤ ev q)⟩ :=
  List.forall_mem_map

theorem ruled_hole (ev : Combo → Nat) (ps : List Combo) : (ruled ev ps).map (·.hole) = ps := by
  simp [ruled, Function.comp_def]

theorem ruled_hand (ev : Combo → Nat) (ps : List Combo) : (ruled ev ps).map (·.hand) = ps.map ev := by
  simp [ruled, Function.comp_def]

theorem ruled_win (ev : Combo → Nat) (ps : List Combo) :
    (ruled ev ps).map (·.win) = winnersOf (ps.map ev) := by
  simp [ruled, winnersOf, Function.comp_def, List.all_map]

theorem ruled_winner (ev : Combo → Nat) (ps : List Combo) (hne : ps ≠ []) : 1 ≤ (ruled ev ps).countP (·.win) := by
  have := Lemmas.winnersOf_pos (hs := ps.map ev) (by simpa using hne)
  rwa [← ruled_win, List.countP_map] at this

/-- players who all evaluate alike all win -/
theorem ruled_const_countP (c : Nat) (ps : List Combo) : (ruled (fun _ => c) ps).countP (·.win) = ps.length := by
  rw [ruled, List.countP_map, List.countP_eq_length.mpr (by simp)]

theorem winnerLen_ruled {W : Type} (board : List Card) (ev : Combo → Nat) (ps : List Combo) (prob : W)
    (hlen : ps.length ≤ 255) (dbg : Bool) :
    winnerLen ⟨board, ruled ev ps, prob⟩ dbg = .ok ((ruled ev ps).countP (·.win)) := by
  have := List.countP_le_length (p := (·.win)) (l := ruled ev ps)
  rw [ruled_length] at this
  exact if_pos (Nat.le_trans this hlen)

/-- invariant of the single pass over the hands so far: `s` (`strongest`) bounds them from below and `w`
(`winners`) holds exactly the positions attaining it -/
structure Inv (hands : List Nat) (s : Nat) (w : List Nat) : Prop where
  low : ∀ h ∈ hands, s ≤ h
  win : ∀ j, j ∈ w ↔ hands[j]? = some s

theorem inv_init (s : Nat) : Inv [] s [] := ⟨by simp, by simp⟩

/-- a hand `pi` comes in: the old winners stay unless it undercuts them, its own position wins unless it is
undercut -/
theorem Inv.snoc {hands : List Nat} {s : Nat} {w : List Nat} (hI : Inv hands s w) (pi : Nat) {w' : List Nat}
    (hw : ∀ j, j ∈ w' ↔ j ∈ w ∧ s ≤ pi ∨ j = hands.length ∧ pi ≤ s) : Inv (hands ++ [pi]) (min s pi) w' where
  low := List.forall_mem_append.mpr
    ⟨fun h hh => Nat.le_trans (Nat.min_le_left ..) (hI.low h hh), by simp [Nat.min_le_right]⟩
  win j := by
    rw [hw, Lemmas.getElem?_concat_eq_some, hI.win]
    refine or_congr ⟨fun ⟨e, h⟩ => by rwa [Nat.min_eq_left h], fun e => ?_⟩
      (and_congr_right fun _ => ⟨fun h => (Nat.min_eq_right h).symm, fun h => h ▸ Nat.min_le_left ..⟩)
    have h : s ≤ pi := Nat.le_trans (hI.low _ (List.mem_of_getElem? e)) (Nat.min_le_right ..)
    exact ⟨by rwa [Nat.min_eq_left h] at e, h⟩

/-- one iteration: `None` for a player who collides with the board; one who does not, evaluated to `pi`, is
appended, `strongest` becomes the minimum, the invariant is kept -/
theorem sdStep_eq (board : List Card) (pls : List ShowdownPlayer) (s : Nat) (w : List Nat) (p : Combo) (pi : Nat)
    (hI : Inv (pls.map (·.hand)) s w) (he : collides board p = false → eval7 (sevenCards p board) = .ok pi) :
    if collides board p then sdStep board pls.length ⟨pls, s, w⟩ p = .ok none
    else ∃ w', sdStep board pls.length ⟨pls, s, w⟩ p = .ok (some ⟨pls ++ [⟨p, pi, false⟩], min s pi, w'⟩)
      ∧ Inv (pls.map (·.hand) ++ [pi]) (min s pi) w' := by
  cases hc : collides board p with
  | true => rw [if_pos rfl]; unfold sdStep; exact if_pos hc
  | false =>
    rw [if_neg Bool.false_ne_true]
    unfold sdStep
    simp only [show (board.contains p.fst || board.contains p.snd) = false from hc, he hc, Bool.false_eq_true,
      if_false]
    rcases Nat.lt_trichotomy pi s with h | h | h
    · rw [if_pos (Nat.le_of_lt h), if_pos h]
      exact ⟨_, by rw [Nat.min_eq_right (Nat.le_of_lt h)],
        hI.snoc pi fun j => by simp [Nat.not_le.mpr h, Nat.le_of_lt h]⟩
    · subst h
      rw [if_pos (Nat.le_refl _), if_neg (Nat.lt_irrefl _)]
      exact ⟨_, by rw [Nat.min_self], hI.snoc pi fun j => by simp [or_comm]⟩
    · rw [if_neg (Nat.not_le.mpr h)]
      exact ⟨_, by rw [Nat.min_eq_left (Nat.le_of_lt h)],
        hI.snoc pi fun j => by simp [Nat.not_le.mpr h, Nat.le_of_lt h]⟩

/-- the loop: it answers `None` at the first player who collides with the board; if nobody does, every player
is appended with his evaluation, `strongest` becomes the minimum, the invariant is kept -/
theorem sdLoop_spec (board : List Card) (ev : Combo → Nat) (ps : List Combo)
    (hev : ∀ p ∈ ps, collides board p = false → eval7 (sevenCards p board) = .ok (ev p))
    (pls : List ShowdownPlayer) (s : Nat) (w : List Nat) (hI : Inv (pls.map (·.hand)) s w) :
    if ps.any (collides board) then sdLoop board ps pls.length ⟨pls, s, w⟩ = .ok none
    else ∃ w', sdLoop board ps pls.length ⟨pls, s, w⟩
          = .ok (some ⟨pls ++ ps.map (fun p => ⟨p, ev p, false⟩), (ps.map ev).foldl min s, w'⟩)
      ∧ Inv (pls.map (·.hand) ++ ps.map ev) ((ps.map ev).foldl min s) w' := by
  induction ps generalizing pls s w with
  | nil => exact ⟨w, by simp [sdLoop], by simpa using hI⟩
  | cons p ps ih =>
    have hp := sdStep_eq board pls s w p (ev p) hI (hev p List.mem_cons_self)
    split at hp
    · next hc => simp only [List.any_cons, hc, Bool.true_or, if_true, sdLoop, hp]
    · next hc =>
      obtain ⟨w₁, h₁, hI₁⟩ := hp
      have := ih (fun q hq => hev q (List.mem_cons_of_mem _ hq)) (pls ++ [⟨p, ev p, false⟩]) _ w₁
        (by simpa using hI₁)
      simpa only [List.any_cons, hc, Bool.false_or, sdLoop, h₁, List.length_append, List.length_singleton,
        List.append_assoc, List.singleton_append, List.map_append, List.map_cons, List.map_nil, List.foldl_cons]
        using this

/-- the flag pass, position by position -/
theorem flag_getElem? (players : List ShowdownPlayer) (winners : List Nat) (j : Nat) :
    (flagWinners players winners)[j]? =
      players[j]?.map (fun pl => if winners.contains j then { pl with win := true } else pl) := by
  unfold flagWinners
  simp only [List.getElem?_map, List.getElem?_zipIdx, Option.map_map, Nat.zero_add]
  rfl

/-- the flag pass after the loop, no hand being above the start value `s₀` of `strongest`: the ruled showdown -/
theorem Inv.flag {ev : Combo → Nat} {ps : List Combo} {s₀ : Nat} {w : List Nat}
    (hI : Inv (ps.map ev) ((ps.map ev).foldl min s₀) w) (hle : ∀ p ∈ ps, ev p ≤ s₀) :
    flagWinners (ps.map fun p => ⟨p, ev p, false⟩) w = ruled ev ps := by
  apply List.ext_getElem?
  intro j
  simp only [flag_getElem?, ruled_getElem?, List.getElem?_map]
  cases hj : ps[j]? with
  | none => rfl
  | some p =>
    have hp := List.mem_of_getElem? hj
    -- attaining the minimum is being undercut by nobody
    have hmin : w.contains j = ps.all fun q => decide (ev p ≤ ev q) := by
      rw [Bool.eq_iff_iff, List.contains_iff_mem, hI.win, List.getElem?_map, hj, List.all_eq_true]
      simp only [Option.map_some, Option.some.injEq, decide_eq_true_eq]
      constructor
      · intro e q hq; rw [e]; exact hI.low _ (List.mem_map_of_mem hq)
      · intro h
        apply Nat.le_antisymm _ (hI.low _ (List.mem_map_of_mem hp))
        rcases Lemmas.foldl_min_mem (ps.map ev) s₀ with e | e
        · rw [e]; exact hle p hp
        · obtain ⟨q, hq, e⟩ := List.mem_map.mp e; rw [← e]; exact h q hq
    simp only [Option.map_some, hmin]
    cases ps.all fun q => decide (ev p ≤ ev q) <;> rfl

/-- **the showdown in closed form.**  If `ev` is what the evaluator returns for the seven cards of each player
who does not collide with the board (within the `u16` sentinel): no showdown if somebody collides, else the one
the rules prescribe. -/
theorem showdownNew_of_eval {W : Type} (board : List Card) (ev : Combo → Nat) (ps : List Combo) (prob : W)
    (hev : ∀ p ∈ ps, collides board p = false → eval7 (sevenCards p board) = .ok (ev p))
    (hle : ∀ p ∈ ps, ev p ≤ 65535) :
    showdownNew ps board prob
      = if ps.any (collides board) then .ok none else .ok (some ⟨board, ruled ev ps, prob⟩) := by
  -- 65535 = `u16::MAX`, the start value of `strongest_index` (showdown.rs)
  have := sdLoop_spec board ev ps hev [] _ [] (inv_init 65535)
  simp only [List.length_nil, List.nil_append, List.map_nil] at this
  split at this
  · next hany => simp only [showdownNew, this, if_pos hany]
  · next hany =>
    obtain ⟨w, hl, hI⟩ := this
    simp only [showdownNew, hl, hI.flag hle, if_neg hany]

theorem showdownNew_eq_ruled {W : Type} (board : List Card) (ev : Combo → Nat) (ps : List Combo) (prob : W)
    (hno : ∀ p ∈ ps, collides board p = false)
    (hev : ∀ p ∈ ps, eval7 (sevenCards p board) = .ok (ev p)) (hle : ∀ p ∈ ps, ev p ≤ 65535) :
    showdownNew ps board prob = .ok (some ⟨board, ruled ev ps, prob⟩) := by
  rw [showdownNew_of_eval board ev ps prob (fun p hp _ => hev p hp) hle, if_neg (by simpa using hno)]

/-- **`Showdown::new` in one equation**, at a proper table: no showdown if somebody collides with the board,
else the ruled one, the evaluation being the class of each player's best hand (C01) -/
theorem showdownNew_eq {W : Type} (board : List Card) (ps : List Combo) (prob : W) (h : WfTable board ps) :
    showdownNew ps board prob = if ps.any (collides board) then .ok none
      else .ok (some ⟨board, ruled (fun p => best ((sevenCards p board).map C01.toSpec)) ps, prob⟩) :=
  showdownNew_of_eval board _ ps prob (fun _ hp hc => (h.seven hp hc).eval)
    fun _ _ => Nat.le_trans (Lemmas.best_le _) (by decide)

theorem showdownNew_some {W : Type} (board : List Card) (ps : List Combo) (prob : W) (h : WfTable board ps)
    (hno : ∀ p ∈ ps, collides board p = false) : showdownNew ps board prob
      = .ok (some ⟨board, ruled (fun p => best ((sevenCards p board).map C01.toSpec)) ps, prob⟩) := by
  rw [showdownNew_eq board ps prob h, if_neg (by simpa using hno)]

/-- No showdown is produced exactly when some player's hole card lies on the board. -/
theorem C03_none_iff {W : Type} (board : List Card) (ps : List Combo) (prob : W) (h : WfTable board ps) :
    showdownNew ps board prob = .ok none ↔ ∃ p ∈ ps, collides board p = true := by
  rw [showdownNew_eq board ps prob h, ← List.any_eq_true]
  split <;> simp_all

theorem eq_of_some {W : Type} (board : List Card) (ps : List Combo) (prob : W) (h : WfTable board ps)
    (sd : Showdown W) (hsd : showdownNew ps board prob = .ok (some sd)) :
    (∀ p ∈ ps, collides board p = false)
      ∧ sd = ⟨board, ruled (fun p => best ((sevenCards p board).map C01.toSpec)) ps, prob⟩ := by
  rw [showdownNew_eq board ps prob h] at hsd
  split at hsd
  · cases hsd
  · next hno =>
    cases hsd
    exact ⟨by simpa using hno, rfl⟩

/-- Otherwise a showdown is produced; it lists the players in input order, each with the evaluation of
that player's own seven cards; the winners are exactly the players whose index no other player
undercuts; `winner_len` is the number of flagged players and is at least one (for a non-empty table). -/
theorem C03_some {W : Type} (board : List Card) (ps : List Combo) (prob : W) (h : WfTable board ps)
    (hno : ∀ p ∈ ps, collides board p = false) :
    ∃ sd : Showdown W, showdownNew ps board prob = .ok (some sd)
      ∧ sd.board = board ∧ sd.prob = prob
      ∧ sd.players.map (·.hole) = ps
      ∧ (∀ pl ∈ sd.players, eval7 (sevenCards pl.hole board) = .ok pl.hand
            ∧ pl.hand = best ((sevenCards pl.hole board).map C01.toSpec))
      ∧ sd.players.map (·.win) = winnersOf (sd.players.map (·.hand))
      ∧ (ps.length ≤ 255 → ∀ dbg, winnerLen sd dbg = .ok (sd.players.countP (·.win)))
      ∧ (ps ≠ [] → 1 ≤ sd.players.countP (·.win)) := by
  refine ⟨_, showdownNew_some board ps prob h hno, rfl, rfl, ruled_hole _ _, ?_, ?_,
    winnerLen_ruled board _ ps prob, ruled_winner _ _⟩
  · exact forall_mem_ruled.mpr fun p hp => ⟨(h.seven hp (hno p hp)).eval, rfl⟩
  · rw [ruled_win, ruled_hand]

/-- in particular: a flagged player's class is minimal, an unflagged player's is not -/
theorem C03_winner_iff {W : Type} (board : List Card) (ps : List Combo) (prob : W) (h : WfTable board ps)
    (sd : Showdown W) (hsd : showdownNew ps board prob = .ok (some sd)) :
    ∀ pl ∈ sd.players, (pl.win = true ↔ ∀ pl' ∈ sd.players, pl.hand ≤ pl'.hand) := by
  obtain ⟨_, rfl⟩ := eq_of_some board ps prob h sd hsd
  simp only [forall_mem_ruled, List.all_eq_true, decide_eq_true_eq, implies_true]

end EspadaVerif.C03
