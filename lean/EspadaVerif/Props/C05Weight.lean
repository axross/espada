/-
C05 (weights) — "each carrying the token's ':weight', or 1 when omitted", stated WITHOUT a defaulting `getD`.

`C05_token` / `C05_list` conclude with `suffixWeight wt suffix`, which is `(wt.parseW w).getD wt.one` for a suffix
`58 :: w`: with a text interface whose `parseW` never succeeds, every weighted token silently gets weight one and the
theorems are true for the wrong reason.  Here the clause is stated under the explicit, named hypothesis

  `hparse_total : ∀ t, isWeightText t = true → ∃ w, wt.parseW t = some w`

(a text of the weight grammar `0(.d+)?` / `1(.0+)?` is a number; Rust: `f32::from_str` accepts every such decimal),
and the conclusion speaks of the weight AS PARSED: `wt.parseW w' = some w` and every entry carries that `w`.
-/
import EspadaVerif.Props.C05
import EspadaVerif.Lemmas.Decide

namespace EspadaVerif.C05
open TextDefs

variable {W : Type}

/-- the weight a well-formed suffix stands for, without default: what holds of `suffixWeight` holds of one when there is
no suffix, and of the number `w` that `w'` parses to when the suffix is `:w'` -/
theorem suffixWeight_parsed (wt : WText W)
    (hparse_total : ∀ t, isWeightText t = true → ∃ w, wt.parseW t = some w)
    (suffix : Bytes) (hs : SuffixOk suffix) (P : W → Prop) (h : P (suffixWeight wt suffix)) :
    (suffix = [] → P wt.one) ∧ (∀ w', suffix = 58 :: w' → ∃ w, wt.parseW w' = some w ∧ P w) := by
  rcases hs with rfl | ⟨w', rfl, hwt⟩
  · exact ⟨fun _ => h, nofun⟩
  · obtain ⟨w, hw⟩ := hparse_total w' hwt
    refine ⟨nofun, fun _ e => ?_⟩
    cases e
    have : suffixWeight wt (58 :: w') = w := congrArg (·.getD wt.one) hw
    exact ⟨w, hw, this ▸ h⟩

/-- **C05 (token, weight as parsed).** Every well-formed token, with or without a `:weight`, parses and expands to
exactly the combos it denotes, each once; without a suffix every entry has weight one; with the suffix `:w'` the text
`w'` IS a number `w` (`wt.parseW w' = some w`) and every entry carries exactly that `w`. -/
theorem C05_token_weight (wt : WText W) (hempty : wt.parseW [] = none)
    (hparse_total : ∀ t, isWeightText t = true → ∃ w, wt.parseW t = some w)
    (t : Spec.WfToken) (ht : t.wf = true) (suffix : Bytes) (hs : SuffixOk suffix) :
    ∃ tok es, parseToken wt (t.text ++ suffix) = .ok tok ∧ tok.expand = .ok es
      ∧ (codesOf es).Perm t.denote ∧ (codesOf es).Nodup
      ∧ (suffix = [] → ∀ e ∈ es, e.2 = wt.one)
      ∧ (∀ w', suffix = 58 :: w' → ∃ w, wt.parseW w' = some w ∧ ∀ e ∈ es, e.2 = w) := by
  obtain ⟨tok, es, h1, h2, h3, h4, h5⟩ := C05_token wt hempty t ht suffix hs
  exact ⟨tok, es, h1, h2, h3, h4, suffixWeight_parsed wt hparse_total suffix hs (fun w => ∀ e ∈ es, e.2 = w) h5⟩

/-- the LAST token of the list that denotes the combo `c` (none if no token does) -/
def lastToken (ts : List (Spec.WfToken × Bytes)) (c : Nat × Nat) : Option (Spec.WfToken × Bytes) :=
  ts.reverse.find? fun p => p.1.denote.contains c

theorem lastToken_eq_some_iff (ts : List (Spec.WfToken × Bytes)) (c : Nat × Nat) (p : Spec.WfToken × Bytes) :
    lastToken ts c = some p ↔
      ∃ before after, ts = before ++ p :: after ∧ c ∈ p.1.denote ∧ ∀ q ∈ after, c ∉ q.1.denote := by
  rw [lastToken, List.find?_eq_some_iff_append]
  constructor
  · rintro ⟨hp, as, bs, hrev, hall⟩
    refine ⟨bs.reverse, as.reverse, by simpa using congrArg List.reverse hrev, by simpa using hp, fun q hq => ?_⟩
    simpa using hall q (List.mem_reverse.mp hq)
  · rintro ⟨before, after, rfl, hc, hall⟩
    refine ⟨by simpa using hc, after.reverse, before.reverse, by simp, fun q hq => ?_⟩
    simpa using hall q (List.mem_reverse.mp hq)

theorem lastToken_eq_none_iff (ts : List (Spec.WfToken × Bytes)) (c : Nat × Nat) :
    lastToken ts c = none ↔ ∀ q ∈ ts, c ∉ q.1.denote := by
  simp [lastToken]

/-- **C05 (list, weight as parsed).** Parsing a comma-separated list of well-formed tokens, with spaces anywhere:
a combo no token denotes is absent; a combo some token denotes is present with the weight of the LAST token denoting
it — one when that token has no suffix, and for a suffix `:w'` the number `w` that `w'` parses to. -/
theorem C05_list_weight (wt : WText W) (hempty : wt.parseW [] = none)
    (hparse_total : ∀ t, isWeightText t = true → ∃ w, wt.parseW t = some w)
    (ts : List (Spec.WfToken × Bytes))
    (hts : ∀ p ∈ ts, p.1.wf = true ∧ SuffixOk p.2) (s : Bytes)
    (hs : stripSpaces s = joinCommas (ts.map fun p => p.1.text ++ p.2)) :
    ∃ r, parseRange wt s = .ok r ∧ ∀ c : Combo, ComboOk c →
      (lastToken ts (comboCodes c) = none → r.lookup c = none)
      ∧ (∀ p, lastToken ts (comboCodes c) = some p →
          (p.2 = [] → r.lookup c = some wt.one)
          ∧ (∀ w', p.2 = 58 :: w' → ∃ w, wt.parseW w' = some w ∧ r.lookup c = some w)) := by
  obtain ⟨r, hr, hl⟩ := C05_list wt hempty ts hts s hs
  refine ⟨r, hr, fun c hc => ?_⟩
  -- `lastWeight` reads the weight off the suffix of the last token
  have hlook : r.lookup c = (lastToken ts (comboCodes c)).map fun p => suffixWeight wt p.2 := hl c hc
  refine ⟨fun hnone => by rw [hlook, hnone]; rfl, fun p hp => ?_⟩
  have hmem : p ∈ ts := by
    obtain ⟨before, after, rfl, _, _⟩ := (lastToken_eq_some_iff ts _ p).mp hp
    simp
  exact suffixWeight_parsed wt hparse_total p.2 (hts p hmem).2 (fun w => r.lookup c = some w) (by rw [hlook, hp]; rfl)

/-- every suffix of the token grammar is either empty or `:w'`, so the two clauses above cover every token -/
theorem suffix_cases (suffix : Bytes) (hs : SuffixOk suffix) :
    suffix = [] ∨ ∃ w', suffix = 58 :: w' ∧ isWeightText w' = true := hs

/-! ### the hypothesis is necessary, and satisfiable -/

/-- a text interface that reads the weight grammar (and nothing else): the weight IS its text -/
def textWt : WText Bytes :=
  { one := [49], eq := fun a b => a == b, showW := id, parseW := fun t => if isWeightText t then some t else none }

theorem textWt_empty : textWt.parseW [] = none := rfl
theorem textWt_total : ∀ t, isWeightText t = true → ∃ w, textWt.parseW t = some w :=
  fun t ht => ⟨t, if_pos ht⟩

/-- `AJs+:0.5` on that interface: twelve combos, each with the weight the text `0.5` parses to -/
example :
    ∃ tok es, parseToken textWt ((Spec.WfToken.pairPlus 0 3 true).text ++ [58, 48, 46, 53]) = .ok tok
      ∧ tok.expand = .ok es
      ∧ (codesOf es).Perm (Spec.WfToken.pairPlus 0 3 true).denote ∧ (codesOf es).Nodup
      ∧ (([58, 48, 46, 53] : Bytes) = [] → ∀ e ∈ es, e.2 = textWt.one)
      ∧ (∀ w', ([58, 48, 46, 53] : Bytes) = 58 :: w' → ∃ w, textWt.parseW w' = some w ∧ ∀ e ∈ es, e.2 = w) :=
  C05_token_weight textWt textWt_empty textWt_total (.pairPlus 0 3 true) (by decide) [58, 48, 46, 53]
    (by decide)

/-- … and closed: the weight is `0.5` as parsed, not a default -/
example : ∃ tok es, parseToken textWt [65, 74, 115, 43, 58, 48, 46, 53] = .ok tok ∧ tok.expand = .ok es
    ∧ es.length = 12 ∧ ∀ e ∈ es, e.2 = [48, 46, 53] := by
  obtain ⟨tok, es, h1, h2, h3, _, _, h6⟩ := C05_token_weight textWt textWt_empty textWt_total (.pairPlus 0 3 true)
    (by decide) [58, 48, 46, 53] (by decide)
  obtain ⟨w, hw, hall⟩ := h6 [48, 46, 53] rfl
  cases hw
  refine ⟨tok, es, h1, h2, ?_, hall⟩
  have := h3.length_eq
  simp only [codesOf, List.length_map] at this
  rw [this]; decide

/-- the list ` KK+:0.5, AKs,AsKs:0 ,7d7c:0.5 `: A♠K♠ is denoted by `AKs` and then by `AsKs:0`; the LAST one wins and its
weight is the number `0` parses to; A♥K♥ keeps weight one (no suffix); 2♠2♥ is absent -/
example : ∃ r, parseRange textWt
      [32, 75, 75, 43, 58, 48, 46, 53, 44, 32, 65, 75, 115, 44, 65, 115, 75, 115, 58, 48, 32, 44,
       55, 100, 55, 99, 58, 48, 46, 53, 32] = .ok r
    ∧ r.lookup ⟨⟨0, 0⟩, ⟨1, 0⟩⟩ = some [48] ∧ r.lookup ⟨⟨0, 1⟩, ⟨1, 1⟩⟩ = some textWt.one
    ∧ r.lookup ⟨⟨12, 0⟩, ⟨12, 1⟩⟩ = none := by
  obtain ⟨r, hr, h⟩ := C05_list_weight textWt textWt_empty textWt_total
    [(.pocketPlus 1, [58, 48, 46, 53]), (.pair 0 1 true, []), (.cards 0 4, [58, 48]), (.cards 30 31, [58, 48, 46, 53])]
    (by decide)
    [32, 75, 75, 43, 58, 48, 46, 53, 44, 32, 65, 75, 115, 44, 65, 115, 75, 115, 58, 48, 32, 44,
       55, 100, 55, 99, 58, 48, 46, 53, 32] (by decide)
  refine ⟨r, hr, ?_, ?_, ?_⟩
  · obtain ⟨w, hw, hl⟩ := ((h ⟨⟨0, 0⟩, ⟨1, 0⟩⟩ (by decide)).2
      (.cards 0 4, [58, 48]) (by decide)).2 [48] rfl
    cases hw
    exact hl
  · exact ((h ⟨⟨0, 1⟩, ⟨1, 1⟩⟩ (by decide)).2 (.pair 0 1 true, []) (by decide)).1 rfl
  · exact (h ⟨⟨12, 0⟩, ⟨12, 1⟩⟩ (by decide)).1 (by decide)

/-- `hparse_total` is a real restriction: the interface that never reads a number satisfies `hempty` but not it —
and for that interface the conclusion `e.2 = suffixWeight wt suffix` of `C05_token` holds with every weight silently one -/
example : (fun _ => none : Bytes → Option Bytes) [] = none
    ∧ ¬ (∀ t, isWeightText t = true → ∃ w, (fun _ => none : Bytes → Option Bytes) t = some w) :=
  ⟨rfl, fun h => by obtain ⟨w, hw⟩ := h [48] (by decide); cases hw⟩

end EspadaVerif.C05
