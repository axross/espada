/-
C05 — Range notation parses to its standard poker meaning.

`Spec.WfToken` / `Spec.WfToken.denote` (Spec/Notation.lean) are the notation and its meaning, written
independently of the crate; the theorems say the model of the parser + expansion computes exactly that.
-/
import EspadaVerif.Lemmas.NotationToken
import EspadaVerif.Lemmas.NotationList
import EspadaVerif.Lemmas.RoundtripToken

namespace EspadaVerif.C05
open TextDefs

variable {W : Type}

/-- the combos of an expansion as the specification sees them (pairs of card codes) -/
def codesOf (es : List (Combo × W)) : List (Nat × Nat) := es.map fun e => comboCodes e.1

/-- **C05 (token).** Every well-formed token, with or without a `:weight`, parses, and expands to exactly the
combos it denotes in standard notation, each once, each carrying the token's weight (1 when omitted). -/
theorem C05_token (wt : WText W) (hempty : wt.parseW [] = none) (t : Spec.WfToken) (ht : t.wf = true)
    (suffix : Bytes) (hs : SuffixOk suffix) :
    ∃ tok es, parseToken wt (t.text ++ suffix) = .ok tok ∧ tok.expand = .ok es
      ∧ (codesOf es).Perm t.denote ∧ (codesOf es).Nodup ∧ ∀ e ∈ es, e.2 = suffixWeight wt suffix := by
  obtain ⟨kind, cs, hparse, hexp, hcodes⟩ := NotationToken.token_core wt t ht suffix hs
  have hw : TokenFacts.sufW wt suffix = suffixWeight wt suffix :=
    TokenFacts.sufW_eq_suffixWeight wt hempty suffix ((TokenFacts.isWeightSuffix_iff suffix).mpr hs)
  rw [hw] at hparse
  have hco : codesOf (cs.map fun c => (c, suffixWeight wt suffix)) = t.denote := by
    rw [← hcodes, codesOf, List.map_map]
    rfl
  refine ⟨_, _, hparse, hexp _, .of_eq hco, hco ▸ NotationToken.denote_nodup t ht, fun e he => ?_⟩
  obtain ⟨c, -, rfl⟩ := List.mem_map.mp he
  rfl

/-- the weight a list of tokens assigns to a combo: that of the LAST token denoting it -/
def lastWeight (wt : WText W) (ts : List (Spec.WfToken × Bytes)) (c : Nat × Nat) : Option W :=
  (ts.reverse.find? fun p => p.1.denote.contains c).map fun p => suffixWeight wt p.2

theorem lastWeight_cons (wt : WText W) (p : Spec.WfToken × Bytes) (ts : List (Spec.WfToken × Bytes)) (c : Nat × Nat) :
    lastWeight wt (p :: ts) c
      = (lastWeight wt ts c).or (if p.1.denote.contains c then some (suffixWeight wt p.2) else none) := by
  simp only [lastWeight, List.reverse_cons, List.find?_append, List.find?_singleton, Option.map_or]
  split <;> rfl

/-- the block a token's expansion pushes on the history answers exactly for the combos the token denotes -/
theorem lookup_expansion (es : List (Combo × W)) (w : W) (hw : ∀ e ∈ es, e.2 = w)
    (hok : ∀ e ∈ es, ComboOk e.1) (D : List (Nat × Nat)) (hperm : (codesOf es).Perm D) (c : Combo)
    (hc : ComboOk c) :
    HandRange.lookup es.reverse c = if D.contains (comboCodes c) then some w else none := by
  rw [NotationList.lookup_const _ w (fun e he => hw e (List.mem_reverse.mp he)) c]
  refine ite_congr (propext ?_) (fun _ => rfl) (fun _ => rfl)
  simp only [List.contains_iff_mem, ← hperm.mem_iff, codesOf, List.mem_map, List.mem_reverse]
  -- a real combo is determined by its codes
  exact ⟨fun ⟨e, he, h⟩ => ⟨e, he, h ▸ rfl⟩, fun ⟨e, he, h⟩ => ⟨e, he, NotationList.comboCodes_inj (hok e he) hc h⟩⟩

theorem lookup_entries (wt : WText W) (hempty : wt.parseW [] = none) (ts : List (Spec.WfToken × Bytes))
    (hts : ∀ p ∈ ts, p.1.wf = true ∧ SuffixOk p.2) (c : Combo) (hc : ComboOk c) :
    HandRange.lookup ((ts.map fun p => p.1.text ++ p.2).flatMap (RangeAux.pieceEntries wt)).reverse c
      = lastWeight wt ts (comboCodes c) := by
  induction ts with
  | nil => rfl
  | cons p ts ih =>
    obtain ⟨hwf, hsuf⟩ := hts p List.mem_cons_self
    obtain ⟨tok, es, hparse, hexp, hperm, -, hw⟩ := C05_token wt hempty p.1 hwf p.2 hsuf
    rw [List.map_cons, List.flatMap_cons, RangeAux.pieceEntries_ok wt hparse hexp, List.reverse_append,
      HandRange.lookup_append, ih fun q hq => hts q (List.mem_cons_of_mem _ hq),
      lookup_expansion es _ hw (fun e he => (TokenFacts.expand_parsed wt hparse hexp e he).1) p.1.denote hperm c hc,
      lastWeight_cons]

/-- **C05 (list).** Parsing a comma-separated list of well-formed tokens, with spaces anywhere, yields exactly the
combos the tokens denote; where tokens overlap the later token's weight applies; the empty list is the empty range. -/
theorem C05_list (wt : WText W) (hempty : wt.parseW [] = none) (ts : List (Spec.WfToken × Bytes))
    (hts : ∀ p ∈ ts, p.1.wf = true ∧ SuffixOk p.2) (s : Bytes)
    (hs : stripSpaces s = joinCommas (ts.map fun p => p.1.text ++ p.2)) :
    ∃ r, parseRange wt s = .ok r ∧ ∀ c : Combo, ComboOk c → r.lookup c = lastWeight wt ts (comboCodes c) := by
  refine ⟨_, NotationList.parseRange_pieces wt s _ hs fun t ht b hb => ?_, lookup_entries wt hempty ts hts⟩
  -- a text that parses holds no comma
  obtain ⟨q, hq, rfl⟩ := List.mem_map.mp ht
  obtain ⟨_, _, hparse, _⟩ := C05_token wt hempty q.1 (hts q hq).1 q.2 (hts q hq).2
  exact (RoundtripToken.clean_of_parse wt hparse b hb).2

/-- the empty string, and any string of spaces, is the empty range -/
theorem C05_empty (wt : WText W) (s : Bytes) (h : ∀ b ∈ s, b = 32) : parseRange wt s = .ok [] :=
  NotationList.parseRange_pieces wt s [] (NotationList.stripSpaces_spaces s h) nofun

/-- '44' / 'JTs' / '72o' denote 6 / 4 / 12 combos; 'QQ+' three pairs; 'A9s+' five kickers; '88-66' three pairs;
'AQs-A9s' four kickers -/
theorem C05_counts :
    (Spec.WfToken.pocket 10).denote.length = 6 ∧ (Spec.WfToken.pair 3 4 true).denote.length = 4
    ∧ (Spec.WfToken.pair 7 12 false).denote.length = 12 ∧ (Spec.WfToken.pocketPlus 2).denote.length = 18
    ∧ (Spec.WfToken.pairPlus 0 5 true).denote.length = 20 ∧ (Spec.WfToken.pocketSpan 6 8).denote.length = 18
    ∧ (Spec.WfToken.pairSpan 0 2 5 true).denote.length = 16 := by decide

end EspadaVerif.C05
