/-
Props/C06FromIter: `impl FromIterator<(CardPair, f32)> for HandRange`, which stores `if p == 0.0 { 0.0 } else { p }`
(`hand_range.rs`; defect D11 of DESIGN.md).

Without that normalisation a weight of −0.0 — numerically inside [0,1] — is stored through `collect()`; it prints as `:-0`,
which the weight grammar rejects, so the formatted range loses the combo on re-reading (C06) and the two `==`-equal ranges
`{AsKs: 0.0}` and `{AsKs: -0.0}` print differently (C17).

The theorems below are about an abstract per-entry normalisation `norm`: every weight stored by `collectWith norm` is a
normalised input weight, so if `norm` maps every weight of the closed unit interval into the domain `inDom` on which the
C06 / C12 / C17 theorems are stated (for f32: the sign-less bit patterns 0x00000000..=0x3F800000; `norm` sends −0.0 to
+0.0 and is the identity elsewhere), every range built through the public constructor from weights in [0,1] satisfies
the domain hypothesis of those theorems.  With the other constructor, `parseRange`, this is `C10_weight`.
-/
import EspadaVerif.Props.C06
import EspadaVerif.Lemmas.RangeAux

namespace EspadaVerif.C06

variable {W : Type}

/-- `iter.into_iter().map(|(cards, p)| (cards, norm p)).collect()` : inserts in iteration order -/
def collectWith (norm : W → W) (es : List (Combo × W)) : HandRange W :=
  es.foldl (fun m e => HandRange.insert m e.1 (norm e.2)) []

theorem collectWith_eq (norm : W → W) (es : List (Combo × W)) :
    collectWith norm es = (es.map fun e => (e.1, norm e.2)).reverse := by
  rw [collectWith, ← List.append_nil (List.reverse _), ← RangeAux.foldl_insert_eq, List.foldl_map]

/-- D11: a range collected from proper combos with weights of the unit interval satisfies the hypothesis of `C06_range`,
hence (by `C06_range`) its text parses back to a range with the same lookups -/
theorem C06_collect (wt : WText W) (inDom inUnit : W → Prop) (norm : W → W)
    (hok : TextDefs.WTextOk wt inDom) (hnorm : ∀ w, inUnit w → inDom (norm w))
    (es : List (Combo × W)) (hes : ∀ e ∈ es, TextDefs.ComboOk e.1 ∧ inUnit e.2) :
    ∃ txt r', showRange wt (collectWith norm es) = .ok txt ∧ parseRange wt txt = .ok r' ∧
      ∀ c, r'.lookup c = (collectWith norm es).lookup c := by
  apply C06_range wt inDom hok
  intro x hx
  rw [collectWith_eq, List.mem_reverse, List.mem_map] at hx
  obtain ⟨e, he, rfl⟩ := hx
  exact ⟨(hes e he).1, hnorm _ (hes e he).2⟩

end EspadaVerif.C06
