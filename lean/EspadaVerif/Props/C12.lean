/-
C12 — A range splits exactly into complete rank pairs and leftover combos.
The range is any insert history (keys need not even be canonical combos).  The only assumption about the weights is that
`==` is equality on a domain `inDom` holding the range's CURRENT weights (what `lookup` answers): overwritten inserts and
the text conversion of `f32` play no part.  `C12_*_contents` are the theorems; the forms with the hypothesis on the
history (`C12_*_general`) and with the whole bundle `WTextOk` (`C12_*`) are their special cases.
-/
import EspadaVerif.Lemmas.TextDefs
import EspadaVerif.Lemmas.RankPairFacts

namespace EspadaVerif.C12
open TextDefs RankPairFacts

variable {W : Type}

-- the names under which Lemmas/RoundtripRange, Props/C17Text and Props/Witness/C17 call these

/-- **C12 (rank pairs).** A rank pair is reported with weight `w` exactly when it is canonical and all of its
6 / 4 / 12 combos are present with that same weight `w`. -/
theorem C12_report_contents (wt : WText W) (inDom : W → Prop)
    (heq : ∀ a b, inDom a → inDom b → (wt.eq a b = true ↔ a = b)) (r : HandRange W)
    (hr : ∀ c w, r.lookup c = some w → inDom w) :
    ∃ l, rankPairs wt r = .ok l ∧
      ∀ rp w, rpLookup l rp = some w ↔ (RankPair.canonical rp ∧ ∀ c ∈ rp.combos, r.lookup c = some w) :=
  ⟨rpList wt r, rankPairs_eq wt r, report_rpList wt inDom heq r hr⟩

/-- **C12 (leftovers).** For ANY range and ANY `==` (NaN weights included) the leftover view holds exactly the combos not
covered by a reported rank pair, with their own weights. -/
theorem C12_orphans_contents (wt : WText W) (r : HandRange W) :
    ∃ l o, rankPairs wt r = .ok l ∧ orphans wt r = .ok o ∧
      ∀ c, ((∃ rp w, rpLookup l rp = some w ∧ c ∈ rp.combos) → o.lookup c = none)
         ∧ ((∀ rp w, rpLookup l rp = some w → c ∉ rp.combos) → o.lookup c = r.lookup c) :=
  ⟨rpList wt r, orphList wt r, rankPairs_eq wt r, orphans_eq wt r, lookup_orphList_cases wt r⟩

/-- different canonical rank pairs have no combo in common -/
theorem C12_disjoint (rp rp' : RankPair) (h : RankPair.canonical rp) (h' : RankPair.canonical rp') (c : Combo)
    (hc : c ∈ rp.combos) (hc' : c ∈ rp'.combos) : rp = rp' := by
  rw [← classify_of_mem h hc, ← classify_of_mem h' hc']

/-- **C12 (cover).** Every combo of the range lies in exactly one of the two views, with its weight: either it is a
leftover, or exactly one reported rank pair contains it (and carries its weight). -/
theorem C12_cover_contents (wt : WText W) (inDom : W → Prop)
    (heq : ∀ a b, inDom a → inDom b → (wt.eq a b = true ↔ a = b)) (r : HandRange W)
    (hr : ∀ c w, r.lookup c = some w → inDom w) :
    ∃ l o, rankPairs wt r = .ok l ∧ orphans wt r = .ok o ∧
      ∀ c w, r.lookup c = some w →
        (o.lookup c = some w ∧ ∀ rp w', rpLookup l rp = some w' → c ∉ rp.combos)
        ∨ (o.lookup c = none ∧ ∃ rp, rpLookup l rp = some w ∧ c ∈ rp.combos
             ∧ ∀ rp' w', rpLookup l rp' = some w' → c ∈ rp'.combos → rp' = rp) := by
  have hrep := report_rpList wt inDom heq r hr
  refine ⟨rpList wt r, orphList wt r, rankPairs_eq wt r, orphans_eq wt r, fun c w hw => ?_⟩
  obtain ⟨hin, hout⟩ := lookup_orphList_cases wt r c
  by_cases hm : ∃ rp w', rpLookup (rpList wt r) rp = some w' ∧ c ∈ rp.combos
  · obtain ⟨rp, w', h1, h2⟩ := hm
    obtain ⟨hcan, hall⟩ := (hrep rp w').mp h1
    obtain rfl : w' = w := Option.some.inj ((hall c h2).symm.trans hw)
    exact .inr ⟨hin ⟨rp, w', h1, h2⟩, rp, h1, h2, fun rp' w'' h1' h2' =>
      C12_disjoint rp' rp ((hrep rp' w'').mp h1').1 hcan c h2' h2⟩
  · have hno := fun rp w' h1 h2 => hm ⟨rp, w', h1, h2⟩
    exact .inl ⟨(hout hno).trans hw, hno⟩

/-! ### the forms under the whole f32 bundle, hypothesis on the history -/

/-- **C12 (rank pairs).** `C12_report_contents` under `WTextOk`, with the hypothesis on the history. -/
theorem C12_report (wt : WText W) (inDom : W → Prop) (hok : WTextOk wt inDom) (r : HandRange W)
    (hr : ∀ e ∈ r, inDom e.2) :
    ∃ l, rankPairs wt r = .ok l ∧
      ∀ rp w, rpLookup l rp = some w ↔ (RankPair.canonical rp ∧ ∀ c ∈ rp.combos, r.lookup c = some w) :=
  C12_report_contents wt inDom hok.eq_iff r (r.contents_hyp_of_history (P := fun _ w => inDom w) hr)

set_option linter.unusedVariables false in
/-- **C12 (leftovers).** `C12_orphans_contents` again; the hypotheses are not used. -/
theorem C12_orphans (wt : WText W) (inDom : W → Prop) (hok : WTextOk wt inDom) (r : HandRange W)
    (hr : ∀ e ∈ r, inDom e.2) :
    ∃ l o, rankPairs wt r = .ok l ∧ orphans wt r = .ok o ∧
      ∀ c, ((∃ rp w, rpLookup l rp = some w ∧ c ∈ rp.combos) → o.lookup c = none)
         ∧ ((∀ rp w, rpLookup l rp = some w → c ∉ rp.combos) → o.lookup c = r.lookup c) :=
  C12_orphans_contents wt r

/-- **C12 (cover).** `C12_cover_contents` under `WTextOk`, with the hypothesis on the history. -/
theorem C12_cover (wt : WText W) (inDom : W → Prop) (hok : WTextOk wt inDom) (r : HandRange W)
    (hr : ∀ e ∈ r, inDom e.2) :
    ∃ l o, rankPairs wt r = .ok l ∧ orphans wt r = .ok o ∧
      ∀ c w, r.lookup c = some w →
        (o.lookup c = some w ∧ ∀ rp w', rpLookup l rp = some w' → c ∉ rp.combos)
        ∨ (o.lookup c = none ∧ ∃ rp, rpLookup l rp = some w ∧ c ∈ rp.combos
             ∧ ∀ rp' w', rpLookup l rp' = some w' → c ∈ rp'.combos → rp' = rp) :=
  C12_cover_contents wt inDom hok.eq_iff r (r.contents_hyp_of_history (P := fun _ w => inDom w) hr)

theorem C12_sizes : (RankPair.pocket 9).combos.length = 6 ∧ (RankPair.suited 3 4).combos.length = 4
    ∧ (RankPair.ofsuit 7 12).combos.length = 12 := by decide

end EspadaVerif.C12
