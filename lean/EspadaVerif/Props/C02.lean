/-
C02 — Flop enumeration yields every legal deal exactly once and nothing else.

The iterator model (`Model/Iter.lean`: `step`, `advance`, `attempt`, `next`, `drainFuel`) is shown to
refine the list comprehension `Spec.deals` (positions in lexicographic order × one entry per player,
last player fastest, filtered by "all 5 + 2n cards distinct"), for every scope `[a, b)`.  C04 is this
theorem read scope by scope; the termination half of C08 comes from the same statement about the run
(`IterLemmas.run_scope`, through `scope_total`), not from the refinement.
Ranges have any size (indices are unbounded naturals) and may be empty.
-/
import EspadaVerif.Lemmas.IterScope

namespace EspadaVerif.C02
open Spec EspadaVerif.IterLemmas

variable {W : Type}

/-- **C02 / C04 (refinement).** Draining the iterator of a proper input scoped to `[a, b)` returns normally
and yields exactly the showdowns of the legal deals at the positions `a ≤ p < b`, position by position
in lexicographic order, each legal deal once, and nothing else; afterwards `next` keeps returning `None`
without changing the state. -/
theorem C02_refines (ops : WOps W) (flop : List Card) (ranges : List (List (Combo × W))) (a b : Nat × Nat)
    (h : WfInput flop ranges) (hs : ValidScope a b) :
    ∃ s₀ : IterState W, (mkEvaluator flop ranges a b).intoIter = .ok s₀ ∧
    ∃ (sds : List (Showdown W)) (sEnd : IterState W),
      (∀ limit, sds.length < limit → drainFuel ops limit s₀ [] = .ok (sds, sEnd))
      ∧ (deals (flop.map Card.code) (specEntries ranges) a b).map (showdownOfDeal ops flop)
          = sds.map (fun sd => .ok (some sd))
      ∧ next ops sEnd = .ok (none, sEnd) :=
  refines ops flop ranges a b h.wfFlop h.rv hs

/-- every legal deal really produces a showdown (so the list on the left of `C02_refines` has no `none`):
its board is the flop followed by turn and river, its players are the chosen combos in player order,
its probability the product of the chosen weights -/
theorem C02_payload (ops : WOps W) (flop : List Card) (ranges : List (List (Combo × W))) (a b : Nat × Nat)
    (h : WfInput flop ranges) (d : Deal W) (hd : d ∈ deals (flop.map Card.code) (specEntries ranges) a b) :
    ∃ sd : Showdown W, showdownOfDeal ops flop d = .ok (some sd)
      ∧ sd.board = flop ++ [Card.ofCode d.turn, Card.ofCode d.river]
      ∧ sd.players.map (·.hole) = d.choice.map (fun c => (⟨Card.ofCode c.1, Card.ofCode c.2.1⟩ : Combo))
      ∧ sd.prob = d.choice.foldl (fun p c => ops.mul p c.2.2) ops.one
      ∧ (flop ++ [Card.ofCode d.turn, Card.ofCode d.river] ++ sd.players.flatMap (fun p => [p.hole.fst, p.hole.snd])).Nodup :=
  payload ops flop ranges a b h.wfFlop h.rv d hd

end EspadaVerif.C02
