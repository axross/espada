/-
C14 — A hole-card pair is an unordered pair with one canonical form.
-/
import EspadaVerif.Props.C13

namespace EspadaVerif.C14
open Gen

/-- `CardPair::new` as read from the source (`Gen.pairNewOp`, `pairNewThen`, `pairNewElse`) is "swap when left > right" -/
theorem mkPair_eq (l r : Card) : mkPair l r = if Card.gt l r then ⟨r, l⟩ else ⟨l, r⟩ := by
  have h : pairNewOp = 0 ∧ pairNewThen = (1, 0) ∧ pairNewElse = (0, 1) := by decide
  simp [mkPair, cmpOp, h.1, h.2.1, h.2.2]

theorem mkPair_of_lt {a b : Card} (h : Card.lt a b = true) : mkPair a b = ⟨a, b⟩ := by
  rw [mkPair_eq, Card.gt, Card.lt_asymm h]
  rfl

theorem mkPair_of_gt {a b : Card} (h : Card.lt b a = true) : mkPair a b = ⟨b, a⟩ := by
  rw [mkPair_eq, Card.gt, h]
  rfl

theorem mkPair_of_rank_lt {h k : Nat} (hk : h < k) (s t : Nat) : mkPair ⟨h, s⟩ ⟨k, t⟩ = ⟨⟨h, s⟩, ⟨k, t⟩⟩ :=
  mkPair_of_lt ((Card.lt_iff _ _).mpr (.inl hk))

/-- building a pair from two different cards in either order gives equal values, whose first
element is the card that orders first -/
theorem pair_canonical (a b : Card) (h : a ≠ b) :
    mkPair a b = mkPair b a ∧ Card.lt (mkPair a b).fst (mkPair a b).snd = true
    ∧ ((mkPair a b).fst = a ∧ (mkPair a b).snd = b ∨ (mkPair a b).fst = b ∧ (mkPair a b).snd = a) := by
  rcases Card.lt_total h with h1 | h1
  · rw [mkPair_of_lt h1, mkPair_of_gt h1]
    exact ⟨rfl, h1, .inl ⟨rfl, rfl⟩⟩
  · rw [mkPair_of_gt h1, mkPair_of_lt h1]
    exact ⟨rfl, h1, .inr ⟨rfl, rfl⟩⟩

theorem mkPair_inj {a b c d : Card} (hab : a ≠ b) (hcd : c ≠ d) (e : mkPair a b = mkPair c d) :
    a = c ∧ b = d ∨ a = d ∧ b = c := by
  obtain ⟨_, _, h1⟩ := pair_canonical a b hab
  obtain ⟨_, _, h2⟩ := pair_canonical c d hcd
  rw [e] at h1
  rcases h1 with ⟨rfl, rfl⟩ | ⟨rfl, rfl⟩
  · exact h2
  · exact h2.symm.imp And.symm And.symm

/-- `CardPair::new` on two different valid cards stores two valid cards, the first strictly before the second:
a real combo in canonical form (`TextDefs.ComboOk`) -/
theorem mkPair_lt (l r : Card) (hl : l.valid = true) (hr : r.valid = true) (hne : l ≠ r) :
    (mkPair l r).fst.valid = true ∧ (mkPair l r).snd.valid = true
      ∧ Card.lt (mkPair l r).fst (mkPair l r).snd = true := by
  rcases Card.lt_total hne with h | h
  · rw [mkPair_of_lt h]
    exact ⟨hl, hr, h⟩
  · rw [mkPair_of_gt h]
    exact ⟨hr, hl, h⟩

/-- … and on any two valid cards — equal ones included — the first not after the second -/
theorem mkPair_le (l r : Card) (hl : l.valid = true) (hr : r.valid = true) :
    (mkPair l r).fst.valid = true ∧ (mkPair l r).snd.valid = true
      ∧ Card.le (mkPair l r).fst (mkPair l r).snd = true := by
  by_cases h : l = r
  · subst h
    rw [mkPair_eq, ite_self]
    exact ⟨hl, hl, by simp [Card.le]⟩
  · obtain ⟨h1, h2, h3⟩ := mkPair_lt l r hl hr h
    exact ⟨h1, h2, Card.le_of_lt h3⟩

theorem mkPair_fst_bne_snd (l r : Card) : ((mkPair l r).fst != (mkPair l r).snd) = (l != r) := by
  rw [mkPair_eq]
  split <;> simp [bne_comm]

/-- `CardPair` derives `PartialEq, Eq, Hash` on the stored (normalised) tuple: equal pairs have equal
fields, so a derived hash — a function of the fields — is equal too. -/
theorem pair_eq_hash : "Eq" ∈ pairDerives ∧ "PartialEq" ∈ pairDerives ∧ "Hash" ∈ pairDerives := by decide

theorem equal_pairs_equal_hash {H : Type} (hash : Card → Card → H) (a b : Card) (h : a ≠ b) :
    hash (mkPair a b).fst (mkPair a b).snd = hash (mkPair b a).fst (mkPair b a).snd := by
  rw [(pair_canonical a b h).1]

theorem parsePair_four (b₁ b₂ b₃ b₄ : Nat) (h₁ : b₁ < 128) (h₂ : b₂ < 128) (h₃ : b₃ < 128) (h₄ : b₄ < 128) :
    parsePair [b₁, b₂, b₃, b₄] = pairOfRes (parseCard [b₁, b₂]) (parseCard [b₃, b₄]) := by
  have asc : ∀ y ∈ [b₁, b₂, b₃, b₄], y < 128 := by simp [h₁, h₂, h₃, h₄]
  simp [parsePair, isAscii, h₁, h₂, h₃, h₄, slice_ascii asc 0 2 (by omega) (by simp),
    slice_ascii asc 2 4 (by omega) (by simp)]

theorem pairOfRes_cases {a b : Res Card} (ha : a ≠ .panic) (hb : b ≠ .panic) :
    pairOfRes a b = .err ∨ ∃ l r, a = .ok l ∧ b = .ok r ∧ pairOfRes a b = .ok (mkPair l r) := by
  cases a <;> cases b <;> simp_all [pairOfRes]

/-- whatever `CardPair::from_str` returns is an error or `CardPair::new` of two valid cards (possibly the same card
twice): never a panic -/
theorem parsePair_cases (v : Bytes) :
    parsePair v = .err ∨ ∃ l r : Card, l.valid = true ∧ r.valid = true ∧ parsePair v = .ok (mkPair l r) := by
  by_cases h : v.length = 4 ∧ isAscii v = true
  · match v, h with
    | [b₁, b₂, b₃, b₄], ⟨_, ha⟩ =>
      simp only [isAscii, List.all_cons, List.all_nil, Bool.and_true, Bool.and_eq_true, decide_eq_true_eq] at ha
      obtain ⟨h₁, h₂, h₃, h₄⟩ := ha
      obtain ⟨n₁, v₁⟩ := C13.two_char_ascii b₁ b₂ h₁ h₂
      obtain ⟨n₂, v₂⟩ := C13.two_char_ascii b₃ b₄ h₃ h₄
      rw [parsePair_four _ _ _ _ h₁ h₂ h₃ h₄]
      exact (pairOfRes_cases n₁ n₂).imp_right fun ⟨l, r, hl, hr, e⟩ => ⟨l, r, (v₁ l hl).1, (v₂ r hr).1, e⟩
  · exact .inl (by rcases Classical.not_and_iff_not_or_not.mp h with h | h <;> simp [parsePair, h])

theorem parsePair_ok {v : Bytes} {cp : Combo} (h : parsePair v = .ok cp) :
    ∃ l r : Card, l.valid = true ∧ r.valid = true ∧ cp = mkPair l r := by
  rcases parsePair_cases v with e | ⟨l, r, hl, hr, e⟩ <;> rw [e] at h <;> cases h
  exact ⟨l, r, hl, hr, rfl⟩

theorem parsePair_showCards (x y : Card) (hx : x.valid = true) (hy : y.valid = true) :
    parsePair (showCard x ++ showCard y) = .ok (mkPair x y) := by
  have vx := (Card.valid_iff x).mp hx
  have vy := (Card.valid_iff y).mp hy
  show parsePair [rankChar x.rank, suitChar x.suit, rankChar y.rank, suitChar y.suit] = _
  rw [parsePair_four _ _ _ _ (C13.rank_text _ vx.1).2 (C13.suit_text _ vx.2).2 (C13.rank_text _ vy.1).2
    (C13.suit_text _ vy.2).2]
  show pairOfRes (parseCard (showCard x)) (parseCard (showCard y)) = _
  rw [(C13.card_text_roundtrip x hx).1, (C13.card_text_roundtrip y hy).1]
  rfl

/-- a pair's text parses back to the same pair, and both card orders of a text parse equal -/
theorem pair_text (a b : Card) (ha : a.valid = true) (hb : b.valid = true) (h : a ≠ b) :
    parsePair (showPair (mkPair a b)) = .ok (mkPair a b)
    ∧ parsePair (showCard a ++ showCard b) = .ok (mkPair a b)
    ∧ parsePair (showCard b ++ showCard a) = .ok (mkPair a b) := by
  obtain ⟨v1, v2, hlt⟩ := mkPair_lt a b ha hb h
  -- the stored pair is in order, so `CardPair::new` of its two cards is the pair itself
  exact ⟨(parsePair_showCards _ _ v1 v2).trans (congrArg Res.ok (mkPair_of_lt hlt)), parsePair_showCards a b ha hb,
    (pair_canonical a b h).1 ▸ parsePair_showCards b a hb ha⟩

/-- non-vacuity: A♠ K♣ in both orders -/
example : mkPair ⟨0, 0⟩ ⟨1, 3⟩ = mkPair ⟨1, 3⟩ ⟨0, 0⟩ ∧ showPair (mkPair ⟨1, 3⟩ ⟨0, 0⟩) = [65, 115, 75, 99] := by decide

end EspadaVerif.C14
