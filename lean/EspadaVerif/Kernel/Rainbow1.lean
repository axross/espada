/-
Kernel/Rainbow1: the parts of K2 (`Kernel.rainbow_parts`) in which the rank walked first occurs once.
-/
import EspadaVerif.Kernel.Checkers

namespace EspadaVerif.Kernel

theorem rainbow_1_0 : chkWalk slotOK [1, 0] Gen.rainbowWalk 0 7 [] = true := by decide +kernel
theorem rainbow_1_1 : chkWalk slotOK [1, 1] Gen.rainbowWalk 0 7 [] = true := by decide +kernel
theorem rainbow_1_2 : chkWalk slotOK [1, 2] Gen.rainbowWalk 0 7 [] = true := by decide +kernel
theorem rainbow_1_3 : chkWalk slotOK [1, 3] Gen.rainbowWalk 0 7 [] = true := by decide +kernel
theorem rainbow_1_4 : chkWalk slotOK [1, 4] Gen.rainbowWalk 0 7 [] = true := by decide +kernel

end EspadaVerif.Kernel
