/-
Kernel/Assemble: the enumerations of Kernel/Checkers reach every strictly increasing / every sorted rank list, so
their kernel-evaluated parts give the two table obligations of C01 (K1 = `flushOK`, K2 = `rainbowOK`).
-/
import EspadaVerif.Kernel.Rainbow00
import EspadaVerif.Kernel.Rainbow0
import EspadaVerif.Kernel.Rainbow1
import EspadaVerif.Kernel.Rainbow2
import EspadaVerif.Kernel.Rainbow3
import EspadaVerif.Kernel.Rainbow4
import EspadaVerif.Kernel.Flush
import EspadaVerif.Kernel.CheckerFacts

namespace EspadaVerif.Kernel

theorem chkInc_sound (P : List Nat → Bool) : ∀ (t : List Nat) (lo : Nat) (acc : List Nat),
    chkInc P t.length lo acc = true → t.Pairwise (· < ·) → (∀ r ∈ t, lo ≤ r ∧ r < 13) → P (acc.reverse ++ t) = true
  | [], _, _, h, _, _ => by simpa [chkInc] using h
  | r :: t, lo, acc, h, hs, hb => by
    have ⟨hlt, hs'⟩ := List.pairwise_cons.mp hs
    have ⟨hlo, h13⟩ := hb r List.mem_cons_self
    have h1 := List.all_eq_true.mp h r (List.mem_range'_1.mpr ⟨hlo, by omega⟩)
    simpa using chkInc_sound P t (r + 1) (r :: acc) h1 hs' fun x hx => ⟨hlt x hx, (hb x (List.mem_cons_of_mem _ hx)).2⟩

/-- K1 as the Boolean that the C01 check requires by name; the proofs use `flush_slot` -/
theorem flush_all : ∀ F : List Nat, 5 ≤ F.length → F.length ≤ 7 → F.Pairwise (· < ·) → (∀ r ∈ F, r < 13) → flushOK F = true := by
  intro F h5 h7 hs hb
  have hk : chkInc flushU F.length 0 [] = true := by
    have : F.length = 5 ∨ F.length = 6 ∨ F.length = 7 := by omega
    rcases this with h | h | h <;> rw [h]
    · exact flush_5
    · exact flush_6
    · exact flush_7
  exact flushU_eq h5 h7 ▸ chkInc_sound flushU F 0 [] hk hs fun r hr => ⟨Nat.zero_le r, hb r hr⟩

/-- K1: a strictly increasing list of 5, 6 or 7 ranks has its best suited class, which is ≤ 1599, at its mask in the
flush table -/
theorem flush_slot (F : List Nat) (h5 : 5 ≤ F.length) (h7 : F.length ≤ 7) (hs : F.Pairwise (· < ·))
    (hb : ∀ r ∈ F, r < 13) : asFlush (flushHash F) = .ok (fl7 F) ∧ fl7 F ≤ 1599 :=
  flushOK_iff.mp (flush_all F h5 h7 hs hb)

/-- `counts` gives rank `r` the multiplicity `q r`: the walk the model takes over `counts` is one of those `chkWalk`
tried, and the list handed to `leaf` is made of the blocks `q r` times `r`, last-walked rank first -/
theorem chkWalk_sound (leaf : Nat → List Nat → Bool) (counts : List Nat) (q : Nat → Nat) :
    ∀ (walk pre : List Nat) (h rem : Nat) (acc : List Nat), chkWalk leaf pre walk h rem acc = true →
    (∀ r ∈ walk, counts[rankU8 r]? = some (q r) ∧ q r ≤ 4) → pre <+: walk.map q → 0 < rem →
    (walk.map q).sum = rem →
    ∃ hh, rainbowWalkLoop counts walk h rem = .ok hh ∧
      leaf hh (walk.reverse.flatMap (fun r => List.replicate (q r) r) ++ acc) = true
  | [], _, _, _, _, _, _, _, hrem, hsum => absurd hsum (Nat.ne_of_lt hrem)
  | r :: rs, pre, h, rem, acc, hchk, hc, hpre, hrem, hsum => by
    obtain ⟨hget, h4⟩ := hc r List.mem_cons_self
    rw [List.map_cons, List.sum_cons] at hsum
    have ih := fun h rem acc hchk => chkWalk_sound leaf counts q rs pre.tail h rem acc hchk
      (fun x hx => hc x (List.mem_cons_of_mem _ hx)) (by
        cases pre with
        | nil => exact List.nil_prefix
        | cons p ps => exact (List.cons_prefix_cons.mp hpre).2)
    simp only [chkWalk, List.all_eq_true] at hchk
    -- `q r` is among the multiplicities tried for `r`
    have hstep := hchk (q r) (by
      cases pre with
      | nil => exact List.mem_range.mpr (by omega)
      | cons p ps => simp [(List.cons_prefix_cons.mp hpre).1, show q r ≤ rem by omega])
    rw [rainbowWalkLoop, hget, List.reverse_cons, List.flatMap_append, List.flatMap_singleton, List.append_assoc]
    generalize q r = k at *
    cases k with
    | zero => simpa using ih h rem acc (by simpa using hstep) hrem (by omega)
    | succ k =>
      cases hd : dpRef (k + 1) r rem with
      | ok v =>
        simp only [hd, Nat.add_one_ne_zero, if_false, show ¬ k + 1 > rem by omega] at hstep ⊢
        split at hstep
        · -- nothing remains: the ranks still to come have multiplicity 0
          have hnil : rs.reverse.flatMap (fun r => List.replicate (q r) r) = [] := by
            simpa [List.flatMap_eq_nil_iff] using List.sum_eq_zero_iff_forall_eq_nat.mp (show (rs.map q).sum = 0 by omega)
          rw [if_pos (by omega), hnil]
          exact ⟨_, rfl, hstep⟩
        · rw [if_neg (by omega)]
          exact ih _ _ _ hstep (by omega) (by omega)
      | _ => simp [hd] at hstep

/-- The walk is cut into 25 parts by the multiplicities `j`, `k` of the two ranks walked first, one kernel evaluation
each; the largest, `j = k = 0`, holds three lists in eight. -/
theorem rainbow_parts : ∀ j ≤ 4, ∀ k ≤ 4, chkWalk slotOK [j, k] Gen.rainbowWalk 0 7 [] = true :=
  fun j hj k hk => match j, hj, k, hk with
  | 0, _, 0, _ => rainbow_0_0
  | 0, _, 1, _ => rainbow_0_1
  | 0, _, 2, _ => rainbow_0_2
  | 0, _, 3, _ => rainbow_0_3
  | 0, _, 4, _ => rainbow_0_4
  | 1, _, 0, _ => rainbow_1_0
  | 1, _, 1, _ => rainbow_1_1
  | 1, _, 2, _ => rainbow_1_2
  | 1, _, 3, _ => rainbow_1_3
  | 1, _, 4, _ => rainbow_1_4
  | 2, _, 0, _ => rainbow_2_0
  | 2, _, 1, _ => rainbow_2_1
  | 2, _, 2, _ => rainbow_2_2
  | 2, _, 3, _ => rainbow_2_3
  | 2, _, 4, _ => rainbow_2_4
  | 3, _, 0, _ => rainbow_3_0
  | 3, _, 1, _ => rainbow_3_1
  | 3, _, 2, _ => rainbow_3_2
  | 3, _, 3, _ => rainbow_3_3
  | 3, _, 4, _ => rainbow_3_4
  | 4, _, 0, _ => rainbow_4_0
  | 4, _, 1, _ => rainbow_4_1
  | 4, _, 2, _ => rainbow_4_2
  | 4, _, 3, _ => rainbow_4_3
  | 4, _, 4, _ => rainbow_4_4
  | j + 5, h, _, _ | _, _, k + 5, h => absurd h (by omega)

/-- K2: a sorted list of seven ranks, none five times, hashes to the slot of the no-flush table that holds its best
unsuited class, which is ≥ 1600 (behind every flush) when the list has five different ranks -/
theorem rainbow_slot : ∀ R : List Nat, R.length = 7 → R.Pairwise (· ≤ ·) → (∀ r ∈ R, r < 13) → (∀ r, R.count r ≤ 4) →
    ∃ hh, hashRanks R = .ok hh ∧ asRainbow hh = .ok (nf7 R) ∧ (ascents R < 4 ∨ 1600 ≤ nf7 R) := by
  intro R hl hs hb h4
  have hw : ∀ r ∈ Gen.rainbowWalk, r < 13 := by decide
  -- the walk is the sorted order backwards, and prepends: it builds `R` from its blocks
  have hrev : Gen.rainbowWalk = (List.range 13).reverse := by decide
  have hblocks := Lemmas.sorted_eq_blocks hs hb
  -- after the evaluated parts, the side conditions of `chkWalk_sound` in order: the counts are those of `R`, each ≤ 4;
  -- `[count 12, count 11]` begins the multiplicities along the walk; `0 < 7`; the multiplicities sum to `R.length`
  obtain ⟨hh, hloop, hleaf⟩ := chkWalk_sound slotOK ((List.range 13).map (R.count ·)) (R.count ·) _ _ _ _ _
    (rainbow_parts _ (h4 12) _ (h4 11))
    (fun r hr => ⟨by simp [rankU8_of_lt (hw r hr), hw r hr], h4 r⟩) (by simp [Gen.rainbowWalk]) (by decide)
    (by simpa [hrev, hl, List.length_flatMap] using congrArg List.length hblocks)
  rw [List.append_nil, hrev, List.reverse_reverse, hblocks] at hleaf
  exact ⟨hh, by rw [hashRanks_eq hb, hl, hloop], (slotOK_iff hl).mp hleaf⟩

/-- K2 as the Boolean that the C01 check requires by name; the proofs use `rainbow_slot` -/
theorem rainbow_all : ∀ R : List Nat, R.length = 7 → R.Pairwise (· ≤ ·) → (∀ r ∈ R, r < 13) → rainbowOK R = true :=
  fun R hl hs hb => rainbowOK_of_slot fun h5 => rainbow_slot R hl hs hb (count_le_four_of_fiveEq hl h5)

end EspadaVerif.Kernel
