/-
Kernel/NumA: pass A of the numbering, by kernel evaluation; one range per highest rank `a` up to three, where most shapes are.
-/
import EspadaVerif.Kernel.NumDefs

namespace EspadaVerif.Kernel

theorem numA_0 : (List.range' 0 169).all leafA = true := by decide +kernel
theorem numA_169 : (List.range' 169 169).all leafA = true := by decide +kernel
theorem numA_338 : (List.range' 338 169).all leafA = true := by decide +kernel
theorem numA_507 : (List.range' 507 169).all leafA = true := by decide +kernel
theorem numA_676 : (List.range' 676 1521).all leafA = true := by decide +kernel

/-- every prefix code: 2197 = 13³ -/
theorem numA_all : (List.range' 0 2197).all leafA = true :=
  all_range'_append 0 676 1521 (all_range'_append 0 507 169 (all_range'_append 0 338 169
    (all_range'_append 0 169 169 numA_0 numA_169) numA_338) numA_507) numA_676

end EspadaVerif.Kernel
