/-
Kernel/Rainbow0: the parts of K2 (`Kernel.rainbow_parts`) in which the rank walked first does not occur and the
next one does.
-/
import EspadaVerif.Kernel.Checkers

namespace EspadaVerif.Kernel

theorem rainbow_0_1 : chkWalk slotOK [0, 1] Gen.rainbowWalk 0 7 [] = true := by decide +kernel
theorem rainbow_0_2 : chkWalk slotOK [0, 2] Gen.rainbowWalk 0 7 [] = true := by decide +kernel
theorem rainbow_0_3 : chkWalk slotOK [0, 3] Gen.rainbowWalk 0 7 [] = true := by decide +kernel
theorem rainbow_0_4 : chkWalk slotOK [0, 4] Gen.rainbowWalk 0 7 [] = true := by decide +kernel

end EspadaVerif.Kernel
