/-
Kernel/Flush: K1 (`flushOK`, in its evaluated form `flushU`) on every strictly increasing list of 5, 6 and 7 ranks.
-/
import EspadaVerif.Kernel.Checkers

namespace EspadaVerif.Kernel

theorem flush_5 : chkInc flushU 5 0 [] = true := by decide +kernel
theorem flush_6 : chkInc flushU 6 0 [] = true := by decide +kernel
theorem flush_7 : chkInc flushU 7 0 [] = true := by decide +kernel

end EspadaVerif.Kernel
