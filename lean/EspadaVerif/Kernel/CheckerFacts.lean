/-
Kernel/CheckerFacts: what each definition of Kernel/Checkers stands for (the written-out minima are `nf7` / `fl7`, the
Boolean table facts are the propositions C01 uses), and what `hash_for_rainbow` computes on a rank list.  Kept apart
from Kernel/Checkers so that nothing here is in the import closure of the kernel evaluations.
-/
import EspadaVerif.Kernel.Checkers
import EspadaVerif.Lemmas.CardFacts

namespace EspadaVerif.Kernel
open Spec

theorem flushOK_iff {F : List Nat} : flushOK F = true ↔ asFlush (flushHash F) = .ok (fl7 F) ∧ fl7 F ≤ 1599 := by
  unfold flushOK
  cases asFlush (flushHash F) with
  | ok v =>
    simp only [Bool.and_eq_true, beq_iff_eq, decide_eq_true_eq, Res.ok.injEq]
    exact and_congr_right fun e => e ▸ Iff.rfl
  | _ => simp

theorem rainbowOK_of_slot {R : List Nat}
    (h : fiveEq R = false → ∃ hh, hashRanks R = .ok hh ∧ asRainbow hh = .ok (nf7 R) ∧ (ascents R < 4 ∨ 1600 ≤ nf7 R)) :
    rainbowOK R = true := by
  unfold rainbowOK
  cases h5 : fiveEq R with
  | true => rfl
  | false =>
    obtain ⟨hh, e1, e2, h3⟩ := h h5
    simpa [e1, e2] using h3

theorem count_le_four_of_fiveEq {R : List Nat} (hl : R.length = 7) (h5 : fiveEq R = false) (r : Nat) :
    R.count r ≤ 4 := by
  match R, hl with
  | [a, b, c, d, e, f, g], _ =>
    simp only [fiveEq, Bool.or_eq_false_iff, beq_eq_false_iff_ne] at h5
    -- of two different entries at most one equals `r`: that leaves `d` and one each of `(a, e)`, `(b, f)`, `(c, g)`
    have pair : ∀ x y : Nat, x ≠ y → (if x = r then 1 else 0) + (if y = r then 1 else 0) ≤ 1 := by
      intro x y h; split <;> split <;> omega
    have hae := pair a e h5.1.1
    have hbf := pair b f h5.1.2
    have hcg := pair c g h5.2
    have hd : (if d = r then 1 else 0) ≤ 1 := by split <;> omega
    simp only [List.count_cons, List.count_nil, beq_iff_eq]
    omega

theorem uclassT_eq : uclassT = uclass := by
  funext a b c d e
  unfold uclassT uclass
  by_cases h1 : a = b <;> by_cases h2 : b = c <;> by_cases h3 : c = d <;> by_cases h4 : d = e <;>
    subst_vars <;> simp [*]

theorem minB_eq : minB = min := by
  funext x y
  simp only [minB, Nat.min_def, cond_eq_ite, Nat.ble_eq]

theorem nf7_eq (a b c d e f g : Nat) :
    nf7 [a, b, c, d, e, f, g] = min15 uclassT (min6 uclassT 7463 b c d e f g) a b c d e f g := by
  simp only [nf7, choose, List.map_cons, List.map_nil, List.nil_append, List.cons_append, minList, List.foldl_cons,
    List.foldl_nil, uclassL, min15, min6, minB_eq, uclassT_eq]

theorem fl7U_eq {F : List Nat} (h5 : 5 ≤ F.length) (h7 : F.length ≤ 7) : fl7U F = fl7 F := by
  match F, h5, h7 with
  | [a, b, c, d, e], _, _ | [a, b, c, d, e, f], _, _ | [a, b, c, d, e, f, g], _, _ =>
    simp only [fl7, fl7U, choose, List.map_cons, List.map_nil, List.nil_append, List.cons_append, minList,
      List.foldl_cons, List.foldl_nil, sclassL, min15, min6, minB_eq]

theorem flushU_eq {F : List Nat} (h5 : 5 ≤ F.length) (h7 : F.length ≤ 7) : flushU F = flushOK F := by
  rw [flushU, flushOK, fl7U_eq h5 h7]

theorem slotOK_iff {h : Nat} {R : List Nat} (hl : R.length = 7) :
    slotOK h R = true ↔ asRainbow h = .ok (nf7 R) ∧ (ascents R < 4 ∨ 1600 ≤ nf7 R) := by
  match R, hl with
  | [a, b, c, d, e, f, g], _ =>
    cases hr : asRainbow h with
    | ok v =>
      simp only [slotOK, hr, nf7_eq, Bool.and_eq_true, beq_iff_eq, Bool.or_eq_true, decide_eq_true_eq, Res.ok.injEq]
      exact and_congr_right fun e => e ▸ Or.comm
    | _ => simp [slotOK, hr]

/-! ### the model's hash of a rank list -/

/-- the first loop of `hash_for_rainbow` counts every rank -/
theorem rankCounts_eq (rs : List Nat) (hv : ∀ r ∈ rs, r < 13) :
    ∀ counts : List Nat, counts.length = 13 →
    rankCounts counts rs = .ok ((List.range 13).map (fun i => counts.getD i 0 + rs.count i)) := by
  induction rs with
  | nil =>
    intro counts hl
    rw [rankCounts]
    congr 1
    exact List.ext_getElem (by simp [hl]) fun i h1 _ => by simp [List.getD_eq_getElem?_getD, h1]
  | cons r rs ih =>
    intro counts hl
    have hr : r < 13 := hv r List.mem_cons_self
    simp only [rankCounts, rankU8_of_lt hr, Lemmas.getElem?_eq_some_getD (d := 0) (hl ▸ hr)]
    rw [ih (fun c hc => hv c (List.mem_cons_of_mem _ hc)) _ (by rw [List.length_set, hl])]
    congr 1
    refine List.map_congr_left fun i _ => ?_
    simp only [Lemmas.getD_set_succ counts r i (hl ▸ hr), List.count_cons, beq_iff_eq]
    omega

/-- `hash_for_rainbow` walks the numbers of occurrences of the thirteen ranks -/
theorem hashRanks_eq {rs : List Nat} (hv : ∀ r ∈ rs, r < 13) :
    hashRanks rs = rainbowWalkLoop ((List.range 13).map (rs.count ·)) Gen.rainbowWalk 0 rs.length := by
  rw [hashRanks, rankCounts_eq rs hv _ (List.length_replicate ..)]
  exact congrArg (rainbowWalkLoop · _ _ _) <| List.map_congr_left fun i hi => by
    rw [List.getD_eq_getElem?_getD, List.getElem?_replicate_of_lt (List.mem_range.mp hi), Option.getD_some, Nat.zero_add]

end EspadaVerif.Kernel
