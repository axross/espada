/-
Kernel/Rainbow4: the parts of K2 (`Kernel.rainbow_parts`) in which the rank walked first occurs four times.
-/
import EspadaVerif.Kernel.Checkers

namespace EspadaVerif.Kernel

theorem rainbow_4_0 : chkWalk slotOK [4, 0] Gen.rainbowWalk 0 7 [] = true := by decide +kernel
theorem rainbow_4_1 : chkWalk slotOK [4, 1] Gen.rainbowWalk 0 7 [] = true := by decide +kernel
theorem rainbow_4_2 : chkWalk slotOK [4, 2] Gen.rainbowWalk 0 7 [] = true := by decide +kernel
theorem rainbow_4_3 : chkWalk slotOK [4, 3] Gen.rainbowWalk 0 7 [] = true := by decide +kernel
theorem rainbow_4_4 : chkWalk slotOK [4, 4] Gen.rainbowWalk 0 7 [] = true := by decide +kernel

end EspadaVerif.Kernel
