/-
Kernel/Rainbow3: the parts of K2 (`Kernel.rainbow_parts`) in which the rank walked first occurs three times.
-/
import EspadaVerif.Kernel.Checkers

namespace EspadaVerif.Kernel

theorem rainbow_3_0 : chkWalk slotOK [3, 0] Gen.rainbowWalk 0 7 [] = true := by decide +kernel
theorem rainbow_3_1 : chkWalk slotOK [3, 1] Gen.rainbowWalk 0 7 [] = true := by decide +kernel
theorem rainbow_3_2 : chkWalk slotOK [3, 2] Gen.rainbowWalk 0 7 [] = true := by decide +kernel
theorem rainbow_3_3 : chkWalk slotOK [3, 3] Gen.rainbowWalk 0 7 [] = true := by decide +kernel
theorem rainbow_3_4 : chkWalk slotOK [3, 4] Gen.rainbowWalk 0 7 [] = true := by decide +kernel

end EspadaVerif.Kernel
