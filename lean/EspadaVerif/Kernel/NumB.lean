/-
Kernel/NumB: pass B of the numbering, by kernel evaluation.
-/
import EspadaVerif.Kernel.NumDefs

namespace EspadaVerif.Kernel

theorem numB_1 : (List.range' 1 2500).all leafB = true := by decide +kernel
theorem numB_2501 : (List.range' 2501 2500).all leafB = true := by decide +kernel
theorem numB_5001 : (List.range' 5001 2462).all leafB = true := by decide +kernel

theorem numB_all : (List.range' 1 7462).all leafB = true :=
  all_range'_append 1 5000 2462 (all_range'_append 1 2500 2500 numB_1 numB_2501) numB_5001

end EspadaVerif.Kernel
