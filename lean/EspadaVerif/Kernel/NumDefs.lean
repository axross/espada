/-
Kernel/NumDefs: Boolean checkers behind Lemmas/Numbering (the closed-form class numbering is the order rank of the
rule-book strength).  `unrank i` reads the shape of class `i` from the packed table `numWords` (generated, untrusted:
everything used about it is checked by the kernel in the two passes below).  `Kernel/NumA`, `Kernel/NumB` evaluate
the passes on a few ranges by `decide +kernel`, `all_range'_append` glues the ranges, and Lemmas/Numbering lifts the
result (`valid_facts`, `unrank_facts`).
-/
import EspadaVerif.Spec.Poker
import EspadaVerif.Kernel.NumTable

namespace EspadaVerif.Kernel
open EspadaVerif Spec

theorem all_range' {f : Nat → Bool} {lo n : Nat} (h : (List.range' lo n).all f = true) {i : Nat} (h1 : lo ≤ i)
    (h2 : i < lo + n) : f i = true :=
  List.all_eq_true.mp h i (List.mem_range'_1.mpr ⟨h1, h2⟩)

theorem all_range'_append {f : Nat → Bool} (lo m n : Nat) (h1 : (List.range' lo m).all f = true)
    (h2 : (List.range' (lo + m) n).all f = true) : (List.range' lo (m + n)).all f = true := by
  rw [← List.range'_append_1, List.all_append, h1, h2]
  rfl

/-- a shape from its 24-bit code: bit 20 = suited, then `a b c d e` as hex digits -/
def decodeShape (w : Nat) : Shape :=
  ⟨w / 0x100000 % 2 == 1, w / 0x10000 % 16, w / 0x1000 % 16, w / 0x100 % 16, w / 0x10 % 16, w % 16⟩

/-- the shape listed at position `i` (1-based) of the table -/
def unrank (i : Nat) : Shape :=
  decodeShape ((numWords.getD ((i - 1) / 64) 0 >>> (24 * ((i - 1) % 64))) % 0x1000000)

/-! ### pass A
Every valid shape `s` has `1 ≤ cls s ≤ 7462`, `unrank (cls s) = s`, and the category of its strength is the category
of its class.  The valid shapes are enumerated by construction (`a ≤ b ≤ c ≤ d ≤ e < 13`, both values of `suited`);
a leaf fixes the prefix `(a, b, c)`. -/

def okShape (s : Shape) : Bool :=
  !s.valid ||
  (decide (1 ≤ s.cls) && decide (s.cls ≤ 7462) && decide (unrank s.cls = s)
    && (categoryOfStrength s.str == catOfClass s.cls))

/-- all shapes with ranks `a b c ≤ d ≤ e < 13` are fine (provided `a ≤ b ≤ c`) -/
def leafP (a b c : Nat) : Bool :=
  !(decide (a ≤ b) && decide (b ≤ c)) ||
  (List.range' c (13 - c)).all fun d => (List.range' d (13 - d)).all fun e =>
    okShape ⟨false, a, b, c, d, e⟩ && okShape ⟨true, a, b, c, d, e⟩

/-- leaf of pass A for the prefix `(a, b, c)` coded as `169 a + 13 b + c` -/
def leafA (n : Nat) : Bool := leafP (n / 169) (n / 13 % 13) (n % 13)

/-! ### pass B
Every `i` in `1..7462` has `unrank i` valid of class `i`, and `unrank i` is strictly stronger than `unrank (i+1)`. -/

def leafB (i : Nat) : Bool :=
  (unrank i).valid && ((unrank i).cls == i) && (i == 7462 || decide ((unrank (i + 1)).str < (unrank i).str))

end EspadaVerif.Kernel
