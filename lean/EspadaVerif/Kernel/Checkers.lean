/-
Kernel/Checkers: the two finite-table obligations of C01 as Booleans (`flushOK`, `rainbowOK`), and what the kernel
evaluates (`decide +kernel`, in Kernel/Rainbow*, Kernel/Flush) to establish them.  `chkWalk` enumerates the sorted
lists of seven ranks the way `hash_for_rainbow` walks them (rank by rank, a multiplicity each), so the hash is a
running sum; `chkInc` enumerates strictly increasing lists.  Both enumerate by construction: there is no list whose
completeness would itself need a proof.  Evaluated at each list: `slotOK` / `flushU`, the table facts with the best
of the sub-hands written out (`min6`, `min15`).  The file holds definitions only: every evaluation of the two tables imports it, and
what the definitions stand for is proved in Kernel/CheckerFacts.
-/
import EspadaVerif.Model.Eval
import EspadaVerif.Spec.Poker

namespace EspadaVerif.Kernel
open Spec

def uclassL : List Nat → Nat
  | [a, b, c, d, e] => uclass a b c d e
  | _ => 0

def sclassL : List Nat → Nat
  | [a, b, c, d, e] => sclass a b c d e
  | _ => 0

/-- best unsuited class among the five-element sublists of a sorted rank list -/
def nf7 (R : List Nat) : Nat := minList ((choose 5 R).map uclassL)
/-- best suited class among the five-element sublists of a strictly increasing rank list -/
def fl7 (F : List Nat) : Nat := minList ((choose 5 F).map sclassL)

/-- sum of the flush weights of a rank list (`hash_for_flush` restricted to the cards of the suit) -/
def flushHash (rs : List Nat) : Nat := (rs.map (fun r => Gen.flushWeightTbl.getD r 0)).sum

/-- a sorted list of seven ranks holds some rank (at least) five times -/
def fiveEq : List Nat → Bool
  | [a, b, c, _, e, f, g] => a == e || b == f || c == g
  | _ => false

/-- number of strict ascents between neighbours (= number of distinct ranks − 1 for a sorted list) -/
def ascents : List Nat → Nat
  | a :: b :: t => (if a < b then 1 else 0) + ascents (b :: t)
  | _ => 0

/-- K2, the no-flush-table obligation: a sorted list `R` of seven rank codes, none five times, hashes to the slot that
holds the best class `nf7 R` among the 21 five-rank sub-hands of `R` (as unsuited hands); and when `R` has at
least five different ranks that class is ≥ 1600 (so any flush beats it). -/
def rainbowOK (R : List Nat) : Bool :=
  fiveEq R ||
  (match hashRanks R with
   | .ok h =>
     match asRainbow h with
     | .ok v => (v == nf7 R) && (decide (ascents R < 4) || decide (1600 ≤ v))
     | _ => false
   | _ => false)

/-- K1, the flush-table obligation: the mask of a strictly increasing `F` (5..7 ranks of one suit) is the slot that
holds the best suited class `fl7 F` among the five-rank subsets of `F`, which is ≤ 1599. -/
def flushOK (F : List Nat) : Bool :=
  match asFlush (flushHash F) with
  | .ok v => (v == fl7 F) && decide (v ≤ 1599)
  | _ => false

/-! ### the best of the five-element sublists, written out

`nf7` and `fl7` build the list of sublists for every rank list; the kernel spends most of its time on that list
plumbing.  The forms below name the same sublists in the same order without building anything (`nf7_eq`, `fl7U_eq` in
Kernel/CheckerFacts).  `Spec.choose` lists the sublists without the head first, hence the inner `min6`; `chkWalk` fixes
the tail of the sorted list first, so the kernel finds that `min6` in its cache of reductions for every list with the
same last six ranks. -/

/-- `uclass` as a decision tree on the four neighbour equalities -/
def uclassT (a b c d e : Nat) : Nat :=
  if a == b then
    if b == c then
      if c == d then 11 + 12 * a + skip a e
      else if d == e then 167 + 12 * a + skip a d
      else 1610 + 66 * a + lex2 12 (skip a d) (skip a e)
    else if c == d then
      if d == e then 167 + 12 * c + skip c a
      else 2468 + 11 * lex2 13 a c + skip c (skip a e)
    else if d == e then 2468 + 11 * lex2 13 a d + skip d (skip a c)
    else 3326 + 220 * a + lex3 12 (skip a c) (skip a d) (skip a e)
  else if b == c then
    if c == d then
      if d == e then 11 + 12 * b + skip b a
      else 1610 + 66 * b + lex2 12 (skip b a) (skip b e)
    else if d == e then 2468 + 11 * lex2 13 b d + skip d (skip b a)
    else 3326 + 220 * b + lex3 12 (skip b a) (skip b d) (skip b e)
  else if c == d then
    if d == e then 1610 + 66 * c + lex2 12 (skip c a) (skip c b)
    else 3326 + 220 * c + lex3 12 (skip c a) (skip c b) (skip c e)
  else if d == e then 3326 + 220 * d + lex3 12 (skip d a) (skip d b) (skip d c)
  else if isStraight a b c d e then (if a == 0 && b == 9 then 1609 else 1600 + a)
  else 6186 + lex5 a b c d e - straightsBefore (lex5 a b c d e)

/-- `min` without the detour through `Decidable`, which costs the kernel four times as much -/
def minB (x y : Nat) : Nat := bif Nat.ble x y then x else y

/-- `m`, lowered by `u` on the six five-element sublists of six entries (in the order of `Spec.choose`) -/
def min6 (u : Nat → Nat → Nat → Nat → Nat → Nat) (m b c d e f g : Nat) : Nat :=
  minB (minB (minB (minB (minB (minB m
    (u c d e f g)) (u b d e f g)) (u b c e f g)) (u b c d f g)) (u b c d e g)) (u b c d e f)

/-- `m`, lowered by `u` on the fifteen five-element sublists of `[a, b, …, g]` that contain `a` -/
def min15 (u : Nat → Nat → Nat → Nat → Nat → Nat) (m a b c d e f g : Nat) : Nat :=
  minB (minB (minB (minB (minB (minB (minB (minB (minB (minB (minB (minB (minB (minB (minB m
    (u a d e f g)) (u a c e f g)) (u a c d f g)) (u a c d e g)) (u a c d e f))
    (u a b e f g)) (u a b d f g)) (u a b d e g)) (u a b d e f)) (u a b c f g))
    (u a b c e g)) (u a b c e f)) (u a b c d g)) (u a b c d f)) (u a b c d e)

/-- `fl7` on five, six or seven ranks -/
def fl7U : List Nat → Nat
  | [a, b, c, d, e] => minB 7463 (sclass a b c d e)
  | [a, b, c, d, e, f] => min6 sclass 7463 a b c d e f
  | [a, b, c, d, e, f, g] => min15 sclass (min6 sclass 7463 b c d e f g) a b c d e f g
  | _ => 0

/-- all strictly increasing continuations of length `k` with entries in `lo..12`, appended to the reversed
accumulator, satisfy `P` -/
def chkInc (P : List Nat → Bool) : Nat → Nat → List Nat → Bool
  | 0, _, acc => P acc.reverse
  | k + 1, lo, acc => (List.range' lo (13 - lo)).all (fun r => chkInc P k (r + 1) (r :: acc))

/-- `flushOK`, with `fl7` in its written-out form -/
def flushU (F : List Nat) : Bool :=
  match asFlush (flushHash F) with
  | .ok v => (v == fl7U F) && decide (v ≤ 1599)
  | _ => false

/-- Every way of giving the ranks of `walk` multiplicities `≤ 4` that sum to `rem` (the first ones as listed in
`pre`, if any), continuing `rainbowWalkLoop` from the partial sum `h`: `leaf` holds of the final hash and of the
sorted rank list (`acc` = the ranks walked so far). -/
def chkWalk (leaf : Nat → List Nat → Bool) : List Nat → List Nat → Nat → Nat → List Nat → Bool
  | _, [], _, _, _ => true
  | pre, r :: rs, h, rem, acc =>
    (match pre with
      | [] => List.range (min 4 rem + 1)
      | k :: _ => if k ≤ rem then [k] else []).all fun len =>
        if len = 0 then chkWalk leaf pre.tail rs h rem acc
        else match dpRef len r rem with
          | .ok v =>
            if rem = len then leaf (h + v) (List.replicate len r ++ acc)
            else chkWalk leaf pre.tail rs (h + v) (rem - len) (List.replicate len r ++ acc)
          | _ => false

/-- what `rainbowOK` asks of the slot `h` for the sorted rank list `R` (`1600 ≤ v` is tested before the dearer `ascents`) -/
def slotOK (h : Nat) (R : List Nat) : Bool :=
  match asRainbow h, R with
  | .ok v, [a, b, c, d, e, f, g] =>
    (v == min15 uclassT (min6 uclassT 7463 b c d e f g) a b c d e f g) && (decide (1600 ≤ v) || decide (ascents R < 4))
  | _, _ => false

end EspadaVerif.Kernel
