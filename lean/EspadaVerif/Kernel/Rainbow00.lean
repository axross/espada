/-
Kernel/Rainbow00: the largest of the 25 parts of K2 (`Kernel.rainbow_parts`), neither of the two ranks walked first
occurring.  It has a module of its own because the kernel keeps every reduction of a declaration in its cache: this
one evaluation takes about 4.4 GB.
-/
import EspadaVerif.Kernel.Checkers

namespace EspadaVerif.Kernel

theorem rainbow_0_0 : chkWalk slotOK [0, 0] Gen.rainbowWalk 0 7 [] = true := by decide +kernel

end EspadaVerif.Kernel
