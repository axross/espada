/-
Kernel/Rainbow2: the parts of K2 (`Kernel.rainbow_parts`) in which the rank walked first occurs twice.
-/
import EspadaVerif.Kernel.Checkers

namespace EspadaVerif.Kernel

theorem rainbow_2_0 : chkWalk slotOK [2, 0] Gen.rainbowWalk 0 7 [] = true := by decide +kernel
theorem rainbow_2_1 : chkWalk slotOK [2, 1] Gen.rainbowWalk 0 7 [] = true := by decide +kernel
theorem rainbow_2_2 : chkWalk slotOK [2, 2] Gen.rainbowWalk 0 7 [] = true := by decide +kernel
theorem rainbow_2_3 : chkWalk slotOK [2, 3] Gen.rainbowWalk 0 7 [] = true := by decide +kernel
theorem rainbow_2_4 : chkWalk slotOK [2, 4] Gen.rainbowWalk 0 7 [] = true := by decide +kernel

end EspadaVerif.Kernel
